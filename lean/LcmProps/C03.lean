import LcmProofs.SimPanel
import LcmProofs.EnvPerm
namespace Lcm

/-! # C03 — simulated states follow the model's law of motion

Model: `simulatePeriod` (`LcmModel/Sim.lean`): after the decisions of period `t`, every transition function
is evaluated by name (`callF`: arguments that are model functions are computed, variables are read from the
agent's own record — period-`t` states and *reported* choices — and `_period = t`, parameters from
`params[next_x]`); a stochastic state takes the label `draws t x i depIdx` where `depIdx` are the agent's
values of the dependencies **in signature order**. The next-state dict is re-keyed by state name. -/

/-- period-0 states are exactly the supplied initial states -/
theorem C03_period0_states (m : Model) (P : Params) (V : List (Tensor Ext))
    (init : List (List (Name × Rat))) (draws : Draws) (i : Nat) (hT : 0 < m.nPeriods) (hi : i < init.length) :
    (((simulate m P V init draws true).getD 0 []).getD i default).states = init.getD i [] := by
  rw [simulate_record P V draws hT hi]
  rfl

/-- the states recorded for agent `i` in period `t` are that agent's entry of the state list of period `t` -/
theorem C03_recorded_states (m : Model) (P : Params) (V : List (Tensor Ext))
    (init : List (List (Name × Rat))) (draws : Draws) (t i : Nat) (ht : t < m.nPeriods) (hi : i < init.length) :
    (((simulate m P V init draws true).getD t []).getD i default).states
      = (statesAt m P V init draws t).getD i [] := by
  rw [simulate_record P V draws ht hi]
  rfl

/-- **law of motion**: the state list of period `t+1` is the re-keyed list of next states computed in
period `t` -/
theorem C03_states_succ (m : Model) (P : Params) (V : List (Tensor Ext)) (init : List (List (Name × Rat)))
    (draws : Draws) (t : Nat) :
    statesAt m P V init draws (t + 1)
      = rekey m (periodOut m P V draws t (statesAt m P V init draws t)).2 :=
  statesAt_succ m P V init draws t

/-- **what the next states of agent `i` are**: for every transition function `next_x`, the pair
`(x, value)` where the value is the transition function evaluated at *that agent's* period-`t` record
(states, reported choices), `_period = t` and the parameters — or, for a stochastic state, the label drawn
for (t, x, i) with the row selected by the agent's dependency values in signature order -/
theorem C03_next_states_of_agent (m : Model) (P : Params) (V : List (Tensor Ext)) (draws : Draws) (t : Nat)
    (states : List (List (Name × Rat))) (i : Nat) (hi : i < states.length) :
    (periodOut m P V draws t states).2.getD i []
      = (let rec_ := (periodOut m P V draws t states).1.getD i default
         let env := toEnv (rec_.states ++ rec_.choices) ++ periodEnv t
         ((functionInfo m).filter (·.isNext)).map fun nf =>
           let x := stripNext nf.name
           if nf.isStochasticNext then
             let deps := ((m.func? nf.name).map (·.args)).getD []
             let depIdx := deps.map fun a => ((env.get? a).map fun v => natOfRat v.toRat).getD 0
             (x, ((draws t x i depIdx : Nat) : Rat))
           else (x, ((callF m P m.fuel env nf.name).map Val.toRat).getD 0)) :=
  periodOut_next_getD m P V draws t hi

/-- the state row of agent `i` in period `t+1`, state by state in declaration order: the value looked up **by
name** in the list of next states computed from that agent's period-`t` record -/
theorem C03_states_of_agent_succ (m : Model) (P : Params) (V : List (Tensor Ext)) (init : List (List (Name × Rat)))
    (draws : Draws) (t i : Nat) (hi : i < init.length) :
    (statesAt m P V init draws (t + 1)).getD i []
      = m.states.map fun s =>
          (s.1, ((((periodOut m P V draws t (statesAt m P V init draws t)).2.getD i []).find? (·.1 == s.1)).map (·.2)).getD 0) :=
  statesAt_succ_getD m P V draws t hi

/-- looking a name up in a list of (name, value) pairs with distinct names returns that name's own value:
state `x` receives the value of `next_x`, never of another transition -/
theorem C03_lookup_own_value (l : List (Name × Rat)) (hnd : (l.map (·.1)).Nodup) (p : Name × Rat) (hp : p ∈ l) :
    ((l.find? (·.1 == p.1)).map (·.2)).getD 0 = p.2 := by
  rw [find?_key_of_mem Prod.fst hnd hp]; rfl

/-- the `next_` prefix is stripped: the transition function `next_x` feeds state `x` -/
theorem C03_prefix_stripped (x : String) : stripNext ("next_" ++ x) = x := by
  unfold stripNext
  rw [String.toList_append]
  have : "next_".toList = ['n', 'e', 'x', 't', '_'] := by decide
  rw [this]
  simp

/-- a sound sampler never returns a label of probability zero: if `draw` only returns indices of positive
entries of the row it is given, the new label of a stochastic state has positive probability in the row
selected by the agent's period-`t` variables -/
theorem C03_label_has_positive_probability (row : List Rat) (draw : List Rat → Nat)
    (hsound : ∀ r : List Rat, (∃ p ∈ r, 0 < p) → 0 < r.getD (draw r) 0) (hrow : ∃ p ∈ row, 0 < p) :
    0 < row.getD (draw row) 0 := hsound row hrow

/-- the keys of the next-state dict are the state names, in declaration order (the `next_` prefix is stripped) -/
theorem C03_rekey_names (m : Model) (nxt : List (List (Name × Rat))) (a : List (Name × Rat)) (ha : a ∈ rekey m nxt) :
    a.map (·.1) = m.states.map (·.1) := by
  simp only [rekey, List.mem_map] at ha
  obtain ⟨b, _, rfl⟩ := ha
  simp

end Lcm
