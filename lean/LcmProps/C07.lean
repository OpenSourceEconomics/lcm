import LcmProofs.Input
import LcmProofs.SolveLaws
import LcmProps.Examples
namespace Lcm

/-! # C07 — the parameter template is complete and parameters are routed by function name

Model: `functionParams` / `shockShapes` (`LcmModel/Input.lean`) for `create_params_template`; `callF` for the
wrappers of `process_model._get_internal_functions` (a function named `f` receives `params[f]` and nothing
else); `uAndF` for `beta` (`big_u = u + params["beta"] * ccv`). -/

/-- one entry per model function, in the order of the function dict -/
theorem C07_template_functions (m : Model) : (functionParams m).map (·.1) = m.functions.map (·.name) :=
  List.map_map ..

/-- the entry of `f` lists **exactly** the arguments of `f` that are neither model functions, choices, states
nor the period -/
theorem C07_function_params (m : Model) (f : Func) (hf : f ∈ m.functions) (p : Name) :
    p ∈ sortNames (f.args.filter fun a =>
        !(m.functions.map (·.name) ++ m.choices.map (·.1) ++ m.states.map (·.1) ++ ["_period"]).contains a) ↔
      p ∈ f.args ∧ p ∉ m.functions.map (·.name) ∧ p ∉ m.choices.map (·.1) ∧ p ∉ m.states.map (·.1) ∧
        p ≠ "_period" := mem_functionParams m f p

/-- the parameters of a function are listed in strictly increasing (alphabetical) order - in particular
without duplicates (the code sorts a set difference) -/
theorem C07_params_sorted (xs : List Name) : (sortNames xs).Pairwise (· < ·) := by
  unfold sortNames
  induction xs with
  | nil => simp
  | cons x xs ih => exact insertName_sorted x ih

theorem C07_params_nodup (xs : List Name) : (sortNames xs).Nodup :=
  (C07_params_sorted xs).imp ne_of_lt

/-- the transition array of a stochastic state has one leading dimension per dependency **in signature
order** (the number of periods for `_period`), and the number of labels last -/
theorem C07_shock_shape (m : Model) (v : VariableInfo) (f : Func) (hv : v ∈ (variableInfo m).filter (·.isStochastic))
    (hf : m.func? ("next_" ++ v.name) = some f) :
    let size := fun (x : Name) =>
      if x = "_period" then m.nPeriods
      else (((m.states ++ m.choices).find? (·.1 == x)).map (·.2.points.length)).getD 0
    (v.name, f.args.map size ++ [size v.name]) ∈ shockShapes m := by
  intro size
  unfold shockShapes
  rw [List.mem_map]
  exact ⟨v, hv, by simp only [hf]; rfl⟩

/-- **routing**: a model function called through the generated wrappers evaluates the user body on its
arguments, where an argument that is another model function is computed, a variable is read from the
environment, and anything else is read from `params[<name of this function>]` -/
theorem C07_routing (m : Model) (P : Params) (fuel : Nat) (env : Env) (fname : Name) (f : Func)
    (hf : m.func? fname = some f) :
    callF m P (fuel + 1) env fname = (do
      let argVals ← f.args.mapM fun a =>
        match m.func? a with
        | some _ => callF m P fuel env a
        | none => match env.get? a with
          | some v => some v
          | none => (P.get? fname a).map Val.num
      f.body.eval (f.args.zip argVals)) := by
  rw [callF_succ, hf]
  rfl

/-- **equal parameter names in different functions never interact**: a model function reads the parameters
only through `Params.get? f p`, so parameter sets that agree on every (function, parameter) pair give every
model function the same value; what is stored under another function's name is not read by `get? f`
(`C07_lookup_by_function_name`) -/
theorem C07_noninterference (m : Model) (P P' : Params) (hP : ∀ f p, P.get? f p = P'.get? f p)
    (fuel : Nat) (e : Env) (fname : Name) : callF m P fuel e fname = callF m P' fuel e fname :=
  callF_congr_params m hP fuel e fname

/-- `Params.get? f p` only looks under the name `f`: changing the entry of another function `g ≠ f` is
invisible to `f` -/
theorem C07_lookup_by_function_name (beta : Rat) (shocks : List (Name × Tensor Rat))
    (fs : List (Name × List (Name × Rat))) (g : Name) (ps ps' : List (Name × Rat)) (f p : Name) (hfg : f ≠ g) :
    ({ beta, funcs := (g, ps) :: fs, shocks } : Params).get? f p
      = ({ beta, funcs := (g, ps') :: fs, shocks } : Params).get? f p := by
  simp [Params.get?, List.find?, beq_eq_false_iff_ne.mpr hfg.symm]

/-- `beta` is the only discount factor and enters once per period: the objective is `u + beta * E` -/
theorem C07_beta_once (m : Model) (P : Params) (g : Groups) (t : Nat) (env0 : Env)
    (V : Tensor Ext) (feasNext : List (List (Name × Rat))) (q : Rat) (f : Bool)
    (h : uAndF m P g t (some (V, feasNext)) env0 = some (q, f)) :
    ∃ u ev : Rat, q = u + P.beta * ev ∧ (callF m P m.fuel (env0 ++ periodEnv t) "utility").map Val.toRat = some u := by
  obtain ⟨u, ev, hu, _, hq⟩ := valOf_some_eq_some_iff.mp (uAndF_eq_some_iff.mp h).2
  exact ⟨u, ev, hq, hu⟩


/-- **routing for the executable `solve`, every period**: two parameter sets that agree on `beta`, on the transition
arrays and on the value stored *under each function's own name for each of that function's own arguments* give the same
value arrays. Whatever else a parameter set contains - the same parameter name under another function, entries for
names that are not arguments, entries for functions that do not exist - never reaches any function. -/
theorem C07_solve_reads_own_slots_only (m : Model) (P P' : Params) (h : SameSlots m P P') (j : Nat) (hj : j < m.nPeriods) :
    (solve m P' true).getD (m.nPeriods - 1 - j) default = (solve m P true).getD (m.nPeriods - 1 - j) default := by
  rw [solve_sameSlots h]

-- non-vacuity: kappa stored under a constraint that does not take it, and under a function that does not exist
def Ex.consParams' : Params :=
  { Ex.consParams with funcs := Ex.consParams.funcs ++ [("budget_constraint", [("kappa", 99)]), ("ghost", [("kappa", -7)])] }
#guard (Ex.consModel.functions.all fun f => f.args.all fun p =>
  Ex.consParams'.get? f.name p == Ex.consParams.get? f.name p)
#guard ((solve Ex.consModel Ex.consParams').map (·.toFlat)) == ((solve Ex.consModel Ex.consParams).map (·.toFlat))

end Lcm
