import LcmModel.Validate
import LcmModel.GridsPy
namespace Lcm

/-! # C12 — specifications are rejected up front or run to completion (partial)

Model: `validateModel` (`LcmModel/Validate.lean`): `Model.__post_init__` (type validation, then logical
validation; any failure -> `ModelInitilizationError`) followed by the checks made while the functions are
created (`ValueError`). Decision logic stated outright. The converse half of the property ("every accepted
specification can be solved and simulated") is **false of the current code**: the accepted-but-failing shapes
K1-K7 are listed in `known_findings.json` and replayed by the check; for the *supported* class the executable
model is total (`solve` / `simulate` are total functions) and the correspondence shows the implementation runs. -/

/-- the outcome of `validateModel` as a function of its five tests: a finite table, checked by evaluation -/
theorem validateModel_table {t l a b c : Bool} :
    let o := if !t then Outcome.modelInitError else if !l then .modelInitError
      else if a || b || c then .valueError else .accepted
    (o = .accepted ↔ t = true ∧ l = true ∧ a = false ∧ b = false ∧ c = false) ∧
    (o = .modelInitError ↔ t = false ∨ l = false) ∧
    (o = .valueError ↔ t = true ∧ l = true ∧ (a = true ∨ b = true ∨ c = true)) := by
  revert t l a b c; decide

/-- accepted exactly when no listed rule is violated -/
theorem C12_accept_iff (r : RawModel) :
    validateModel r = .accepted ↔
      (r.typesOk = true ∧ r.logicOk = true ∧ stochasticOnContinuous r.toModel = false ∧
        stochasticDependsOnInvalid r.toModel = false ∧ filterWithParams r.toModel = false) :=
  validateModel_table.1

/-- rejected by `Model(...)` with the initialization error exactly when a type rule or a logical rule fails -/
theorem C12_model_init_error_iff (r : RawModel) :
    validateModel r = .modelInitError ↔ (r.typesOk = false ∨ r.logicOk = false) :=
  validateModel_table.2.1

/-- rejected with a ValueError while the functions are created exactly when `Model(...)` accepts and a
stochastic transition sits on / depends on a non-discrete variable, or a filter has parameters -/
theorem C12_value_error_iff (r : RawModel) :
    validateModel r = .valueError ↔
      (r.typesOk = true ∧ r.logicOk = true ∧
        (stochasticOnContinuous r.toModel = true ∨ stochasticDependsOnInvalid r.toModel = true ∨
          filterWithParams r.toModel = true)) :=
  validateModel_table.2.2

/-- the logical rules, spelled out -/
theorem C12_logic_rules (r : RawModel) :
    r.logicOk = true ↔
      (1 ≤ r.nPeriods ∧ (∃ f ∈ r.functions, f.func.name = "utility") ∧
        (∀ s ∈ r.states, ∃ f ∈ r.functions, f.func.name = "next_" ++ s.name) ∧
        (∀ s ∈ r.states, ∀ c ∈ r.choices, c.name ≠ s.name)) := by
  simp [RawModel.logicOk, List.any_eq_true, List.all_eq_true, and_assoc]

/-- the type rules, spelled out -/
theorem C12_type_rules (r : RawModel) :
    r.typesOk = true ↔
      ((∀ v ∈ r.choices ++ r.states, v.keyIsStr = true ∧ v.isGrid = true) ∧
        (∀ f ∈ r.functions, f.keyIsStr = true ∧ f.isCallable = true)) := by
  simp only [RawModel.typesOk, List.all_eq_true, Bool.and_eq_true, List.mem_append]

/-- every outcome is one of the three: rejection is never "later", never silent, never another kind -/
theorem C12_outcome_exhaustive (r : RawModel) :
    validateModel r = .accepted ∨ validateModel r = .modelInitError ∨ validateModel r = .valueError := by
  cases validateModel r <;> simp

/-- an invalid grid never reaches the model: the grid constructor decides first (see C16) -/
theorem C12_invalid_grid_rejected_by_constructor (start stop n : PyVal)
    (h : validateContinuous start stop n true = false) : validateLogspace start stop n true = false := by
  simp [validateLogspace, h]

-- non-vacuity: a one-state model without its transition function is rejected; with it, accepted
def exUtility : RawFunc := { func := { name := "utility", args := ["s"], body := Expr.var "s" } }
def exNextS : RawFunc := { func := { name := "next_s", args := ["s"], body := Expr.var "s" } }
def exNextSStoch : RawFunc := { func := { name := "next_s", args := ["w"], body := Expr.num 0, stochastic := true } }
def exNextW : RawFunc := { func := { name := "next_w", args := ["w"], body := Expr.var "w" } }
def exS : RawVar := { name := "s", grid := Grid.disc 2 }
def exW : RawVar := { name := "w", grid := Grid.lin 0 1 2 }
#guard validateModel { nPeriods := 1, functions := [exUtility], choices := [], states := [exS] } = .modelInitError
#guard validateModel { nPeriods := 1, functions := [exUtility, exNextS], choices := [], states := [exS] } = .accepted
#guard validateModel { nPeriods := 0, functions := [exUtility, exNextS], choices := [], states := [exS] } = .modelInitError
#guard validateModel { nPeriods := 1, functions := [exUtility, exNextSStoch, exNextW], choices := [], states := [exS, exW] } = .valueError

end Lcm
