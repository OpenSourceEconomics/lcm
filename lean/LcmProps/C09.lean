import LcmProofs.EnvPerm
import LcmProofs.Objective
namespace Lcm

/-! # C09 — generated functions are pure (partial)

In the model the generated solve / simulate functions *are* mathematical functions of their arguments, so the
history statement is a triviality there (`C09_history`); its content - that the implementation has no hidden
state (JIT caches, module-level dicts, mutable defaults, hash-seed dependent set iteration, process state) - is
runtime behaviour the model cannot exhibit and is covered by the differential histories of the check only.
The part that is logic: the name plumbing collects argument names in **sets** (`get_union_of_arguments`), whose
iteration order depends on the hash seed; the theorems show that no result depends on that order. -/

/-- a call history on one function object: every answer is the function of that call's own arguments -/
theorem C09_history {Call Result : Type} (eval : Call → Result) (calls : List Call) (k : Nat) (hk : k < calls.length) :
    (calls.map eval)[k]'(by simpa using hk) = eval calls[k] := by simp

/-- interleaving other calls changes nothing: the answer to a call is the same in any two histories -/
theorem C09_interleaving_irrelevant {Call Result : Type} (eval : Call → Result) (h1 h2 : List Call) (c : Call) :
    ((h1 ++ [c]).map eval).getLast? = ((h2 ++ [c]).map eval).getLast? := by simp

/-- the order in which argument names are collected / passed is irrelevant: every model function reads its
environment through lookups only (all calls are by keyword) -/
theorem C09_arg_order_irrelevant (m : Model) (P : Params) (fuel : Nat) (e e' : Env) (h : EnvEq e e') (f : Name) :
    callF m P fuel e f = callF m P fuel e' f := callF_congr_env m P fuel h f

theorem C09_objective_arg_order_irrelevant (m : Model) (P : Params) (g : Groups) (t : Nat)
    (next : Option (Tensor Ext × List (List (Name × Rat)))) (e e' : Env) (h : EnvEq e e') :
    uAndF m P g t next e = uAndF m P g t next e' := uAndF_congr_env m P g t next h

/-- the result depends on the parameters only through the values stored under each function's name: params
objects with equal leaves are interchangeable (python floats, numpy or jax scalars carry the same number) -/
theorem C09_params_by_value (m : Model) (P P' : Params) (hP : ∀ f p, P.get? f p = P'.get? f p)
    (fuel : Nat) (e : Env) (f : Name) : callF m P fuel e f = callF m P' fuel e f :=
  callF_congr_params m hP fuel e f

-- non-vacuity: two environments with the same bindings in different order
example : EnvEq [("a", Val.num 1), ("b", Val.num 2)] [("b", Val.num 2), ("a", Val.num 1)] :=
  envEq_of_perm_env (.swap ..) (by decide)

end Lcm
