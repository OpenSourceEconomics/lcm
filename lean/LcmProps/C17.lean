import LcmProofs.SolveFull
import Mathlib.Data.List.Nodup
namespace Lcm
attribute [local irreducible] groups

/-! # C17 — the state-choice space contains exactly the filter-passing combinations

Model: `mkSpace` (`LcmModel/Solve.lean`) = `create_state_choice_space`: `assignments` is the row-major
Cartesian product of the restricted variables' grids (`jnp.meshgrid(indexing="ij")`), `combos` keeps the
combinations passing the filter of period `t` (`arr[mask]`, order preserved), `feasStates` are the
restricted-state combinations with at least one passing choice (`mask.any(axis=choice_axes)`), the state indexer
is the rank in `feasStates` (−1 = not found), `segIdsImpl` is `np.repeat(np.arange(n_feasible), n_choices)`. -/

variable {S C : Type}

/-- stored rows = exactly the filter-passing combinations of the product grid -/
theorem C17_row_iff (ss : List S) (sc : List C) (filt : S → C → Bool) (p : S × C) :
    p ∈ combos ss sc filt ↔ p.1 ∈ ss ∧ p.2 ∈ sc ∧ filt p.1 p.2 = true :=
  mem_combos ss sc filt p

/-- row-major order of the canonical variable order: the rows are the filtered product, state part outer -/
theorem C17_rows_row_major (ss : List S) (sc : List C) (filt : S → C → Bool) :
    combos ss sc filt = (ss.flatMap fun s => sc.map fun c => (s, c)).filter fun p => filt p.1 p.2 := rfl

/-- equivalently, block by block: the rows of state `s` are its passing choices, in grid order -/
theorem C17_rows_blocks (s : S) (rest : List S) (sc : List C) (filt : S → C → Bool) :
    combos (s :: rest) sc filt = ((sc.filter (filt s)).map fun c => (s, c)) ++ combos rest sc filt :=
  combos_cons s rest sc filt

/-- no duplicates (grids have distinct points) -/
theorem C17_rows_nodup (ss : List S) (sc : List C) (filt : S → C → Bool) (hs : ss.Nodup) (hc : sc.Nodup) :
    (combos ss sc filt).Nodup :=
  (hs.product hc).filter _

/-- feasible restricted-state combinations: those with at least one passing choice, in grid order -/
theorem C17_feasible_state_iff (ss : List S) (sc : List C) (filt : S → C → Bool) (s : S) :
    s ∈ feasStates ss sc filt ↔ s ∈ ss ∧ ∃ c ∈ sc, filt s c = true := by
  simp [feasStates]

theorem C17_feasible_states_sublist (ss : List S) (sc : List C) (filt : S → C → Bool) :
    (feasStates ss sc filt).Sublist ss := List.filter_sublist

/-- **the state indexer**: a feasible combination is mapped to its rank among the feasible combinations
(position in `feasStates`), every other combination to "not found" (the fill value −1) -/
theorem C17_indexer [DecidableEq S] (ss : List S) (sc : List C) (filt : S → C → Bool) (hs : ss.Nodup) (s : S) :
    (∀ k (hk : k < (feasStates ss sc filt).length), (feasStates ss sc filt)[k] = s →
        (feasStates ss sc filt).findIdx? (· == s) = some k) ∧
    (s ∉ feasStates ss sc filt → (feasStates ss sc filt).findIdx? (· == s) = none) :=
  ⟨fun _ hk h => h ▸ findIdx?_beq_getElem (hs.sublist (C17_feasible_states_sublist ss sc filt)) hk,
    findIdx?_beq_eq_none⟩

/-- **choice segments**: with the segment ids of `create_indexers_and_segments`, segment `k` consists of
exactly the stored rows of the `k`-th feasible state (stated through the segment maximum of arbitrary row
values, which is how the segments are consumed) -/
theorem C17_segments (ss : List S) (sc : List C) (filt : S → C → Bool) (g : S × C → Ext) (k : Nat)
    (hk : k < (feasStates ss sc filt).length) :
    segMaxAt ((combos ss sc filt).map g) (segIdsImpl ss sc filt) k
      = foldMax ((sc.filter (filt ((feasStates ss sc filt)[k]))).map fun c =>
          g ((feasStates ss sc filt)[k], c)) :=
  segMaxAt_combos ss sc filt g k hk

/-- one segment id per stored row -/
theorem C17_segment_ids_length (ss : List S) (sc : List C) (filt : S → C → Bool) :
    (segIdsImpl ss sc filt).length = (combos ss sc filt).length := by
  -- one id per passing choice of every feasible state; the other states have no rows
  rw [segIdsImpl, repeatArange_length, ← combos_feasStates, combos_length]

/-- the space of the model is built from these pieces (definitional) -/
theorem C17_mkSpace (m : Model) (P : Params) (t : Nat) :
    let g := groups m
    (mkSpace m P g t).rows = combos (assignments g.sS) (assignments g.sC) (spaceFilt m P t) ∧
    (mkSpace m P g t).feas = feasStates (assignments g.sS) (assignments g.sC) (spaceFilt m P t) ∧
    (mkSpace m P g t).segIds = segIdsImpl (assignments g.sS) (assignments g.sC) (spaceFilt m P t) :=
  ⟨mkSpace_rows m P _ t, mkSpace_feasStates m P _ t, mkSpace_segIds m P _ t⟩

/-- unrestricted discrete variables and continuous states are stored as their full grids: the dense part of
an index addresses `pickAt` of the full grids (`denseEnv`) -/
theorem C17_dense_full (l : List (Name × List Rat)) : (allIdx (sizes l)).map (pickAt l) = assignments l :=
  allIdx_pickAt l

-- non-vacuity
example : combos [0, 1, 2] [0, 1] (fun (s c : Nat) => decide (s ≤ c) || c == 0) = [(0, 0), (0, 1), (1, 0), (1, 1), (2, 0)] := by decide
example : segIdsImpl [0, 1, 2] [0, 1] (fun (s c : Nat) => decide (s ≠ 1)) = [0, 0, 1, 1] ∧
    feasStates [0, 1, 2] [0, 1] (fun (s c : Nat) => decide (s ≠ 1)) = [0, 2] := by decide

end Lcm
