import LcmProofs.Entry
import LcmProps.Examples
import LcmProofs.UtilityBody
import LcmProofs.InterpBounds
namespace Lcm
attribute [local irreducible] groups

/-! # C01 — `solve()` returns the exact backward-induction (Bellman) solution on the grid

Model: `Lcm.solve` (`LcmModel/Solve.lean`), the executable, implementation-shaped model that the
driver runs against `get_lcm_function(model, "solve")` (op `solve`). The period objective is the model's
`uAndF` (`utility + beta * Σ_nodes (Π weights) * V̂(next state)`, `V̂` = `vhat`: exact lookup in discrete
states through the feasible-rank of period `t+1`, multilinear inter/extrapolation in continuous states;
no continuation in the last period) together with the combined constraint.

Statement of the property at full strength = `C01_entry_isMax_restricted` + `C01_entry_isMax_unrestricted`
(the two layouts of the value array) for the arrays `C01_backward_recursion` describes. JIT does not exist
in the model: "independent of JIT" is a correspondence obligation (both settings are run), not a theorem. -/

/-- one value array per period -/
theorem C01_length (m : Model) (P : Params) : (solve m P true).length = m.nPeriods :=
  solve_length m P true

/-- period `t` is computed from the array of period `t+1`; the last period has no continuation -/
theorem C01_backward_recursion (m : Model) (P : Params) (t : Nat) (ht : t < m.nPeriods) :
    (solve m P true).getD t default
      = solvePeriod m P (groups m) t (mkSpace m P (groups m) t) (nextOf m P (solve m P true) t) :=
  solve_getD m P t ht

theorem C01_no_continuation_in_last_period (m : Model) (P : Params) (V : List (Tensor Ext)) :
    nextOf m P V (m.nPeriods - 1) = none :=
  nextOf_last P (by omega)

/-- **Bellman value, models with filter-restricted variables**: the entry for the `k`-th feasible
restricted-state combination, unrestricted discrete state `dIdx` and continuous node `xIdx` is the maximum
of the objective over all grid choice combinations that pass every filter and every constraint. -/
theorem C01_entry_isMax_restricted (m : Model) (P : Params) (t : Nat) (ht : t < m.nPeriods)
    (hsparse : (!((groups m).sS.isEmpty && (groups m).sC.isEmpty)) = true)
    (k : Nat) (hk : k < (feasOf m P t).length) (dIdx xIdx : List Nat)
    (hd : InBounds (sizes (groups m).dS) dIdx) (hx : InBounds (sizes (cStateGrids (groups m))) xIdx) :
    let g := groups m
    let next := nextOf m P (solve m P true) t
    IsMaxOver
      (fun x : List (Name × Rat) × (List (Name × Rat) × List (Name × Rat)) =>
        (x.1 ∈ assignments g.sC ∧ spaceFilt m P t ((feasOf m P t)[k]) x.1 = true) ∧
          (x.2.1 ∈ assignments g.dC ∧ (x.2.2 ∈ assignments g.cC ∧
            feasibleOf (objAt m P g t next ((feasOf m P t)[k]) dIdx xIdx x.1 x.2.1 x.2.2) = true)))
      (fun x => valueOf (objAt m P g t next ((feasOf m P t)[k]) dIdx xIdx x.1 x.2.1 x.2.2))
      (((solve m P true).getD t default).get (k :: (dIdx ++ xIdx))) :=
  solve_entry_isMax_restricted m P t ht hsparse k hk dIdx xIdx hd hx

/-- **Bellman value, models without filter-restricted variables**: the entry for unrestricted discrete state `dIdx`
and continuous node `xIdx` is the maximum of the objective over all grid choice combinations that satisfy every
constraint. -/
theorem C01_entry_isMax_unrestricted (m : Model) (P : Params) (t : Nat) (ht : t < m.nPeriods)
    (hdense : (!((groups m).sS.isEmpty && (groups m).sC.isEmpty)) = false)
    (dIdx xIdx : List Nat)
    (hd : InBounds (sizes (groups m).dS) dIdx) (hx : InBounds (sizes (cStateGrids (groups m))) xIdx) :
    let g := groups m
    let next := nextOf m P (solve m P true) t
    IsMaxOver
      (fun x : List (Name × Rat) × List (Name × Rat) =>
        x.1 ∈ assignments g.dC ∧ (x.2 ∈ assignments g.cC ∧
          feasibleOf (objAtDense m P g t next dIdx xIdx x.1 x.2) = true))
      (fun x => valueOf (objAtDense m P g t next dIdx xIdx x.1 x.2))
      (((solve m P true).getD t default).get (dIdx ++ xIdx)) :=
  solve_entry_isMax_unrestricted m P t ht hdense dIdx xIdx hd hx

/-- a state without any feasible choice has value −inf, and only such a state -/
theorem C01_ninf_iff_no_feasible_choice {X : Type} {P : X → Prop} {f : X → Rat} {v : Ext}
    (h : IsMaxOver P f v) : v = .ninf ↔ ∀ x, ¬ P x :=
  h.eq_ninf_iff

/-- an infeasible choice never determines a value: a finite value is the objective at a feasible choice -/
theorem C01_attained_at_feasible_choice {X : Type} {P : X → Prop} {f : X → Rat} {v : Ext}
    (h : IsMaxOver P f v) (hne : v ≠ .ninf) : ∃ x, P x ∧ v = .fin (f x) :=
  h.attained hne

/-- the Bellman value is unique: two arrays satisfying the specification agree entry-wise -/
theorem C01_value_unique {X : Type} {P : X → Prop} {f : X → Rat} {v w : Ext}
    (hv : IsMaxOver P f v) (hw : IsMaxOver P f w) : v = w :=
  hv.unique hw

/-- in the last period the objective is the utility alone -/
theorem C01_last_period_objective (m : Model) (P : Params) (g : Groups) (t : Nat) (env0 : Env) :
    uAndF m P g t none env0 = (do
      let f ← allTrue m P (env0 ++ periodEnv t) (((functionInfo m).filter (·.isConstraint)).map (·.name))
      let u ← (callF m P m.fuel (env0 ++ periodEnv t) "utility").map Val.toRat
      pure (u, f)) :=
  uAndF_none_eq m P g t env0

-- non-vacuity: the hypotheses are met by concrete specifications, and the numbers are the Bellman values
-- (`#guard` = compiled evaluation; the kernel cannot reduce the `String` functions used by the name plumbing)
#guard 0 < Ex.f1Model.nPeriods ∧ (!((groups Ex.f1Model).sS.isEmpty && (groups Ex.f1Model).sC.isEmpty)) = true
#guard (!((groups Ex.consModel).sS.isEmpty && (groups Ex.consModel).sC.isEmpty)) = false
#guard (feasOf Ex.f1Model Ex.f1Params 1).length = 2 ∧ (feasOf Ex.f1Model Ex.f1Params 0).length = 3


/-! ## Refinement to the specification level

`specV` (`LcmModel/Spec.lean`) is the Bellman value by *plain enumeration*: all declared choices in declaration
order, one environment per combination, admissible = every filter and every constraint holds; no groups, no axes,
no feasible-rank, no arg-max chain. The harness uses it (driver ops `spec_v`, `sim_spec`) as the oracle side of the
pipeline properties; the two theorems below show that it is not a second, merely tested description: every stored
entry of `solve` *is* `specV` at the grid state the entry belongs to. The only hypothesis beyond the index bounds is
that the declared variable names are pairwise distinct (`Model` enforces it: dict keys, no name both state and
choice). -/

/-- models with filter-restricted variables -/
theorem C01_entry_eq_spec_restricted (m : Model) (P : Params) (t : Nat) (ht : t < m.nPeriods)
    (hsparse : (!((groups m).sS.isEmpty && (groups m).sC.isEmpty)) = true)
    (k : Nat) (hk : k < (feasOf m P t).length) (dIdx xIdx : List Nat)
    (hd : InBounds (sizes (groups m).dS) dIdx) (hx : InBounds (sizes (cStateGrids (groups m))) xIdx)
    (hnd : ((m.states ++ m.choices).map (·.1)).Nodup) :
    ((solve m P true).getD t default).get (k :: (dIdx ++ xIdx))
      = specV m P (groups m) t (nextOf m P (solve m P true) t)
          ((feasOf m P t)[k] ++ pickAt (groups m).dS dIdx ++ pickAt (cStateGrids (groups m)) xIdx) :=
  (EntryOf.restricted hsparse k hk dIdx xIdx hd hx).get_eq_specV ht hnd
    fun h => nomatch hsparse.symm.trans h

/-- models without filter-restricted variables; `hfs`: filters that read no variable at all (the only filters such a
model can have) hold - `solve` does not evaluate them -/
theorem C01_entry_eq_spec_unrestricted (m : Model) (P : Params) (t : Nat) (ht : t < m.nPeriods)
    (hdense : (!((groups m).sS.isEmpty && (groups m).sC.isEmpty)) = false)
    (dIdx xIdx : List Nat)
    (hd : InBounds (sizes (groups m).dS) dIdx) (hx : InBounds (sizes (cStateGrids (groups m))) xIdx)
    (hnd : ((m.states ++ m.choices).map (·.1)).Nodup)
    (hfs : allTrue m P (toEnv (pickAt (groups m).dS dIdx ++ pickAt (cStateGrids (groups m)) xIdx) ++ periodEnv t)
      (filterNames m) = some true) :
    ((solve m P true).getD t default).get (dIdx ++ xIdx)
      = specV m P (groups m) t (nextOf m P (solve m P true) t)
          (pickAt (groups m).dS dIdx ++ pickAt (cStateGrids (groups m)) xIdx) :=
  (EntryOf.unrestricted hdense dIdx xIdx hd hx).get_eq_specV ht hnd fun _ => hfs

-- non-vacuity: the hypotheses hold on both example specifications and the two sides are the pinned numbers
example : ((Ex.f1Model.states ++ Ex.f1Model.choices).map (·.1)).Nodup := by decide
example : ((Ex.consModel.states ++ Ex.consModel.choices).map (·.1)).Nodup := by decide
#guard (feasOf Ex.f1Model Ex.f1Params 0).length == 3
#guard specV Ex.f1Model Ex.f1Params (groups Ex.f1Model) 0 (nextOf Ex.f1Model Ex.f1Params (solve Ex.f1Model Ex.f1Params) 0)
    ((feasOf Ex.f1Model Ex.f1Params 0)[2]! ++ pickAt (groups Ex.f1Model).dS [] ++ pickAt (cStateGrids (groups Ex.f1Model)) [])
  == ((solve Ex.f1Model Ex.f1Params).getD 0 default).get [2]
#guard specV Ex.consModel Ex.consParams (groups Ex.consModel) 1 (nextOf Ex.consModel Ex.consParams (solve Ex.consModel Ex.consParams) 1)
    (pickAt (groups Ex.consModel).dS [] ++ pickAt (cStateGrids (groups Ex.consModel)) [2])
  == ((solve Ex.consModel Ex.consParams).getD 1 default).get [2]
#guard filterNames Ex.consModel == []

/-! ## an infeasible choice never determines a value

The utility of the implementation may be `+inf`, `-inf` or `nan` at a choice that a constraint excludes (a division whose
divisor vanishes exactly there); the model renders this as "utility undefined" (`Expr.div`, `none`). The statement of C01
is that such values are never seen: -/

/-- **two specifications whose utilities agree wherever all constraints hold - whatever they return, or fail to return,
elsewhere - have the same solution, every period** -/
theorem C01_infeasible_choice_never_determines_a_value {m m' : Model} {P : Params}
    (h : UtilityAgreesOnFeasible m m' P) : solve m' P true = solve m P true :=
  solve_eq_of_utility_agrees_on_feasible h

/-- the same for the objective of one state-choice combination: the feasibility flags coincide and so do the values of
the feasible combinations (what the masked maximum of `solve` and the arg-max chain of `simulate` read) -/
theorem C01_objective_agrees_on_feasible {m m' : Model} {P : Params} (h : UtilityAgreesOnFeasible m m' P)
    (g : Groups) (t : Nat) (next : Option (Tensor Ext × List (List (Name × Rat)))) (env0 : Env) :
    feasibleOf (uAndF m' P g t next env0) = feasibleOf (uAndF m P g t next env0) ∧
      (feasibleOf (uAndF m P g t next env0) = true → uAndF m' P g t next env0 = uAndF m P g t next env0) :=
  ⟨(h.uAndF g t next env0).1, (h.uAndF g t next env0).eq_of_feasible⟩

/-- instance: the body of `utility` rewritten by any `F` such that the new utility evaluates like the old one wherever all
constraints hold (hypotheses: no function takes the *value* of utility as an argument; no filter, constraint or transition
is called `utility`) -/
theorem C01_rewritten_utility_same_solution (m : Model) (F : Expr → Expr) (P : Params)
    (hno : ∀ f ∈ m.functions, "utility" ∉ f.args)
    (hnames : ∀ fi ∈ functionInfo m, (fi.isConstraint = true ∨ fi.isFilter = true ∨ fi.isNext = true) → fi.name ≠ "utility")
    (hutil : ∀ env, allTrue m P env (constraintNames m) = some true → utilOf (withUtility m F) P env = utilOf m P env) :
    solve (withUtility m F) P true = solve m P true :=
  solve_eq_of_utility_agrees_on_feasible (utilityAgreesOnFeasible_with hno hnames hutil)

namespace Ex
/-- `consModel` with a utility that also lists `w` -/
def consModelW : Model :=
  { consModel with functions := consModel.functions.map fun f =>
      if f.name == "utility" then { f with args := ["c", "d", "w", "kappa"] } else f }
/-- adds `1 / (min(w - c, 0) + 1) - 1`: zero wherever `c ≤ w`, undefined (division by zero) where `c = w + 1` -/
def divTerm (body : Expr) : Expr :=
  .add body (.sub (.div (.num 1) (.add (.min (.sub (.var "w") (.var "c")) (.num 0)) (.num 1))) (.num 1))
end Ex

-- the structural hypotheses hold on the example; the rewritten utility is undefined at an infeasible choice and the
-- solutions coincide (a test of the statement on one specification, not a proof of `hutil` for it)
example : ∀ f ∈ Ex.consModelW.functions, "utility" ∉ f.args := by decide +kernel
#guard (functionInfo Ex.consModelW).all fun fi => !(fi.isConstraint || fi.isFilter || fi.isNext) || fi.name != "utility"
#guard utilOf (withUtility Ex.consModelW Ex.divTerm) Ex.consParams (toEnv [("w", 0), ("c", 1), ("d", 0)]) == none
#guard utilOf Ex.consModelW Ex.consParams (toEnv [("w", 0), ("c", 1), ("d", 0)]) == some 2
#guard utilOf (withUtility Ex.consModelW Ex.divTerm) Ex.consParams (toEnv [("w", 1), ("c", 1), ("d", 1)]) == some (9/4)
#guard Ex.flat (solve (withUtility Ex.consModelW Ex.divTerm) Ex.consParams) == Ex.flat (solve Ex.consModelW Ex.consParams)
#guard Ex.flat (solve Ex.consModelW Ex.consParams) == Ex.flat (solve Ex.consModel Ex.consParams)

/-- the continuation value that enters the Bellman maximand (`interpExt` on next period's array, entries in `Rat ∪ {-inf}`):
whenever it is defined and the next state lies inside the grid of every continuous axis, it lies within the range of the
finite next-period values - interpolation inside the grid never invents a value above the best or below the worst stored
one, for any number of continuous states. (Outside the grid the outermost segment is continued and the bound fails.) -/
theorem C01_continuation_value_within_range_inside_grid (t : Tensor Ext) (cs : List Rat) (L U : Rat)
    (hlen : cs.length = t.shape.length) (h2 : ∀ n ∈ t.shape, 2 ≤ n)
    (hin : ∀ p ∈ cs.zip t.shape, 0 ≤ p.1 ∧ p.1 ≤ (p.2 : Rat) - 1)
    (hb : ∀ idx v, InBounds t.shape idx → t.get idx = .fin v → L ≤ v ∧ v ≤ U)
    (q : Rat) (hq : interpExt t cs = some q) : L ≤ q ∧ q ≤ U :=
  interpExt_bounds t cs L U hlen h2 hin hb q hq

-- defined and inside: within range; outside: beyond the largest stored value; next to -inf: undefined
example : let t : Tensor Ext := { shape := [2], get := fun idx => .fin (1 + 2 * (idx.headD 0 : Nat)) }
    interpExt t [1/2] = some 2 ∧ interpExt t [2] = some 5 := by decide +kernel
example : let t : Tensor Ext := { shape := [2], get := fun idx => if idx.headD 0 = 0 then .ninf else .fin 1 }
    interpExt t [1/2] = none := by decide +kernel

end Lcm
