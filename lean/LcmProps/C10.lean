import LcmProofs.Laws
import LcmProofs.ChoicePerm
import LcmProps.C01
namespace Lcm
attribute [local irreducible] groups

/-! # C10 — equivalent model specifications yield equal solutions (partial)

Proved at the specification level: the value of a state is a maximum over a *set* of admissible choices
(`IsMaxOver`, order-free), so it cannot depend on enumeration order, on how a restriction is classified, or on
always-true restrictions; and the by-name evaluation of the model functions reads environments only through
lookups, so the order of declarations / of arguments is irrelevant.

Proved for the executable `solve` itself, **last period, layout re-indexing included**
(`C10_last_period_entries_agree_restricted` / `_unrestricted`): for two specifications that declare the same states,
choices and functions in different orders, the stored entries of the two last-period arrays that belong to the same
named state are equal - whatever axes, feasible-ranks and group orders the two layouts have. The proof goes through
the specification level: each entry is `specV` of its state (`EntryOf.get_eq_specV`), and `specV … none` is invariant
under permuting declarations (`C10_last_period_value_of_state`: enumeration order by `assignments_perm`, lookups by
`envEq_of_perm`, function lookup by `find?_key_perm`, conjunction order by `allTrue_perm`).

Proved for **every period** when the states keep their order (`C10_choice_and_function_order_irrelevant`, further down):
permuting the choices and the functions leaves all arrays identical.

Not proved in Lean (covered by the metamorphic correspondence only): permuted *states* in earlier periods - it needs,
in addition, that the two continuation functions `vhat` agree as functions of the named state, i.e. invariance of the
multilinear interpolation under permuting continuous axes jointly with the feasible-rank re-indexing - and consistent
renaming (needs a commutation lemma for every name-handling function: `next_` prefix, `_filter` / `_constraint`
suffixes). -/

/-- the value is determined by the admissible set and the objective on it: two specifications with the same
admissible choices and the same objective have the same value at that state -/
theorem C10_same_set_same_value {X : Type} {P P' : X → Prop} {f f' : X → Rat} {v v' : Ext}
    (hv : IsMaxOver P f v) (hv' : IsMaxOver P' f' v') (hP : ∀ x, P x ↔ P' x) (hf : ∀ x, P x → f x = f' x) : v = v' :=
  (hv.congr hP hf).unique hv'

/-- permuting the enumeration order of the choice grid (declaration order of the choices, order of the grid
product) does not change the value -/
theorem C10_choice_order_irrelevant {X : Type} (xs ys : List X) (h : xs.Perm ys) (adm : X → Bool)
    (u cont : X → Rat) (β : Rat) : bellmanStep xs adm u cont β = bellmanStep ys adm u cont β :=
  bellmanStep_congr (fun _ => and_congr_left' h.mem_iff) fun _ _ _ => rfl

/-- adding a constraint or filter that is always true leaves every value unchanged -/
theorem C10_true_restriction {X : Type} (xs : List X) (adm tr : X → Bool) (htr : ∀ x ∈ xs, tr x = true)
    (u cont : X → Rat) (β : Rat) :
    bellmanStep xs (fun x => adm x && tr x) u cont β = bellmanStep xs adm u cont β :=
  bellmanStep_congr (fun x => and_congr_right fun hx => by rw [htr x hx, Bool.and_true]) fun _ _ _ => rfl

/-- the same restriction expressed as a filter (applied when the space is built) or as a constraint (applied
as a mask when maximising) gives the same value at every state that remains in the space -/
theorem C10_filter_vs_constraint {X : Type} (xs : List X) (r1 r2 : X → Bool) (u cont : X → Rat) (β : Rat) :
    bellmanStep (xs.filter r1) r2 u cont β = bellmanStep (xs.filter r2) r1 u cont β :=
  bellmanStep_congr (fun _ => by rw [List.mem_filter, List.mem_filter, and_right_comm]) fun _ _ _ => rfl

/-- the order in which variables are declared / arguments are collected is irrelevant to every model
function: by-name evaluation reads the environment only through lookups -/
theorem C10_env_order_irrelevant (m : Model) (P : Params) (g : Groups) (t : Nat)
    (next : Option (Tensor Ext × List (List (Name × Rat)))) (e e' : Env) (h : EnvEq e e') :
    uAndF m P g t next e = uAndF m P g t next e' := uAndF_congr_env m P g t next h

/-- permuting the declaration order of the **functions** does not change the value of any model function (names are
dict keys, hence distinct): utility, constraints, filters, transitions and auxiliary functions evaluate alike -/
theorem C10_function_order_irrelevant (m : Model) (fs' : List Func) (hp : m.functions.Perm fs')
    (hnd : (m.functions.map (·.name)).Nodup) (P : Params) (fuel : Nat) (e : Env) (fname : Name) :
    callF m P fuel e fname = callF { m with functions := fs' } P fuel e fname :=
  callF_perm_functions hp hnd P fuel e fname

/-- permuting the declaration order of the **variables** permutes the (name, value) lists that environments are
built from; with distinct names no lookup changes -/
theorem C10_variable_order_irrelevant (a b : List (Name × Rat)) (hp : a.Perm b) (hnd : (a.map (·.1)).Nodup) :
    EnvEq (toEnv a) (toEnv b) := envEq_of_perm a b hp hnd

/-- the combined filter / constraint is a conjunction: the order of the functions in the dict is irrelevant
(stated for two restrictions; `allTrue` folds `&&` over the list) -/
theorem C10_conjunction_order (a b : Bool) : (true && a && b) = (true && b && a) :=
  Bool.and_right_comm true a b

/-- **last-period value of a named state**: two specifications declaring the same states, choices and functions in
different orders give the same value to the same state -/
theorem C10_last_period_value_of_state {m m' : Model} (h : PermOf m m') (hnd : (m.functions.map (·.name)).Nodup)
    (P : Params) (g g' : Groups) (t : Nat) (st st' : List (Name × Rat)) (hst : st.Perm st')
    (hkeys : (st.map (·.1) ++ m.choices.map (·.1)).Nodup) :
    specV m P g t none st = specV m' P g' t none st' :=
  specV_last_perm h hnd hst hkeys

/-- **the last-period arrays of `solve`, layout re-indexing included** (both specifications have filter-restricted
variables): entries that belong to the same named state are equal -/
theorem C10_last_period_entries_agree_restricted {m m' : Model} (h : PermOf m m')
    (hfn : (m.functions.map (·.name)).Nodup) (hnd : ((m.states ++ m.choices).map (·.1)).Nodup)
    (P : Params) (t : Nat) (ht : t + 1 = m.nPeriods)
    (hsparse : (!((groups m).sS.isEmpty && (groups m).sC.isEmpty)) = true)
    (hsparse' : (!((groups m').sS.isEmpty && (groups m').sC.isEmpty)) = true)
    (k : Nat) (hk : k < (feasOf m P t).length) (dIdx xIdx : List Nat)
    (hd : InBounds (sizes (groups m).dS) dIdx) (hx : InBounds (sizes (cStateGrids (groups m))) xIdx)
    (k' : Nat) (hk' : k' < (feasOf m' P t).length) (dIdx' xIdx' : List Nat)
    (hd' : InBounds (sizes (groups m').dS) dIdx') (hx' : InBounds (sizes (cStateGrids (groups m'))) xIdx')
    (hsame : ((feasOf m P t)[k] ++ pickAt (groups m).dS dIdx ++ pickAt (cStateGrids (groups m)) xIdx).Perm
      ((feasOf m' P t)[k'] ++ pickAt (groups m').dS dIdx' ++ pickAt (cStateGrids (groups m')) xIdx')) :
    ((solve m P true).getD t default).get (k :: (dIdx ++ xIdx))
      = ((solve m' P true).getD t default).get (k' :: (dIdx' ++ xIdx')) :=
  (EntryOf.restricted hsparse k hk dIdx xIdx hd hx).agree_last h hfn hnd ht
    (.restricted hsparse' k' hk' dIdx' xIdx' hd' hx') hsame
    (fun h => nomatch hsparse.symm.trans h) (fun h => nomatch hsparse'.symm.trans h)

/-- the same for specifications without filter-restricted variables (and without variable-free filters that fail:
`solve` does not evaluate those) -/
theorem C10_last_period_entries_agree_unrestricted {m m' : Model} (h : PermOf m m')
    (hfn : (m.functions.map (·.name)).Nodup) (hnd : ((m.states ++ m.choices).map (·.1)).Nodup)
    (P : Params) (t : Nat) (ht : t + 1 = m.nPeriods)
    (hdense : (!((groups m).sS.isEmpty && (groups m).sC.isEmpty)) = false)
    (hdense' : (!((groups m').sS.isEmpty && (groups m').sC.isEmpty)) = false)
    (dIdx xIdx : List Nat)
    (hd : InBounds (sizes (groups m).dS) dIdx) (hx : InBounds (sizes (cStateGrids (groups m))) xIdx)
    (dIdx' xIdx' : List Nat)
    (hd' : InBounds (sizes (groups m').dS) dIdx') (hx' : InBounds (sizes (cStateGrids (groups m'))) xIdx')
    (hfs : allTrue m P (toEnv (pickAt (groups m).dS dIdx ++ pickAt (cStateGrids (groups m)) xIdx) ++ periodEnv t)
      (filterNames m) = some true)
    (hfs' : allTrue m' P (toEnv (pickAt (groups m').dS dIdx' ++ pickAt (cStateGrids (groups m')) xIdx') ++ periodEnv t)
      (filterNames m') = some true)
    (hsame : (pickAt (groups m).dS dIdx ++ pickAt (cStateGrids (groups m)) xIdx).Perm
      (pickAt (groups m').dS dIdx' ++ pickAt (cStateGrids (groups m')) xIdx')) :
    ((solve m P true).getD t default).get (dIdx ++ xIdx)
      = ((solve m' P true).getD t default).get (dIdx' ++ xIdx') :=
  (EntryOf.unrestricted hdense dIdx xIdx hd hx).agree_last h hfn hnd ht
    (.unrestricted hdense' dIdx' xIdx' hd' hx') hsame (fun _ => hfs) (fun _ => hfs')

/-! ## Every period: the order of the choices and of the functions

`C10_choice_and_function_order_irrelevant`: two specifications that declare the same states in the same order, the same
choices in any order and the same functions in any order (stochastic and deterministic transition functions included) have
**identical value arrays in every period** - although everything `solve` does with the choices differs: which group a
choice belongs to is the same, but the order inside the groups, the stored rows of the state-choice space, the segment
ids, the dense choice axes and the enumeration order of the continuous grids all change. Proof: both arrays are
materialised tensors of the same shape (`solve_shape`, the state groups agree: `state_groups_eq`); every in-range entry
is `specV` of the same named state (`EntryOf.get_eq_specV`, `EntryOf.choicePerm`); `specV` is invariant
(`specV_perm_of`) because the objectives agree (`uAndF_funcPerm`: conjunction order, lookup order, and - for the
expectation - the node list of permuted transition rows is a rearrangement with the same product weights,
`nodes_map_perm`) once the continuation arrays agree - which is the induction hypothesis. `NextKeysNodup`: the names
`x` under which the values of the functions `next_x` are stored are pairwise distinct (true whenever the function names
are: `next_x ↦ x` is injective on names with that prefix; not proved, hence a hypothesis). -/

/-- permuting the declaration order of the choices and of the functions (states kept in order) leaves the value array
of every period unchanged -/
theorem C10_choice_and_function_order_irrelevant {m m' : Model} (h : ChoicePermOf m m')
    (hfn : (m.functions.map (·.name)).Nodup) (hnd : ((m.states ++ m.choices).map (·.1)).Nodup)
    (hnofilt : ((groups m).sS.isEmpty && (groups m).sC.isEmpty) = true → filterNames m = [])
    (hk : NextKeysNodup m)
    (P : Params) (j : Nat) (hj : j < m.nPeriods) :
    (solve m' P true).getD (m.nPeriods - 1 - j) default = (solve m P true).getD (m.nPeriods - 1 - j) default :=
  solve_getD_eq_of_step h.periods
    (fun t => by rw [mkSpace_feas, mkSpace_feas]; exact feasOf_choicePerm h hfn hnd P t)
    (fun t ht => period_choicePerm h hfn hnd hnofilt hk ht) (by omega)

/-- the consumption example with its choices and its functions declared in the opposite order -/
def Ex.consModel' : Model :=
  { Ex.consModel with choices := Ex.consModel.choices.reverse, functions := Ex.consModel.functions.reverse }

-- the hypotheses of `C10_choice_and_function_order_irrelevant` hold for this pair, and the arrays are identical
example : Ex.consModel.choices.Perm Ex.consModel'.choices := (List.reverse_perm _).symm
example : Ex.consModel.functions.Perm Ex.consModel'.functions := (List.reverse_perm _).symm
#guard (((functionInfo Ex.consModel).filter (·.isNext)).map fun fi => stripNext fi.name) == ["w"]
#guard (Ex.consModel.functions.map (·.name)).eraseDups.length == Ex.consModel.functions.length
#guard filterNames Ex.consModel == []
#guard ((solve Ex.consModel' Ex.consParams).map fun V => (V.shape, V.toFlat))
  == ((solve Ex.consModel Ex.consParams).map fun V => (V.shape, V.toFlat))

/-- two stochastic states (`h` with 2 labels depending on `h`; `p` with 3 labels depending on `p` and the choice `d`),
three periods -/
def Ex.stochModel : Model :=
  { nPeriods := 3
    states := [("h", .disc 2), ("p", .disc 3)]
    choices := [("d", .disc 2)]
    functions := [
      { name := "utility", args := ["h", "p", "d"],
        body := .add (.add (.var "h") (.mul (.num 2) (.var "p"))) (.mul (.var "d") (.sub (.var "h") (.var "p"))) },
      { name := "next_h", args := ["h"], body := .num 0, stochastic := true },
      { name := "next_p", args := ["p", "d"], body := .num 0, stochastic := true } ] }

def Ex.stochParams : Params :=
  { beta := 3/4, funcs := []
    shocks := [
      ("h", { shape := [2, 2], get := fun idx => ([1/4, 3/4, 1/2, 1/2] : List Rat).getD (ravel [2, 2] idx) 0 }),
      ("p", { shape := [3, 2, 3],
              get := fun idx => ([1/2, 1/4, 1/4, 0, 1, 0, 1/8, 3/8, 1/2, 1/4, 1/4, 1/2, 1, 0, 0, 1/2, 0, 1/2] : List Rat).getD
                (ravel [3, 2, 3] idx) 0 }) ] }

/-- the same specification with the functions (both stochastic transitions among them) declared in the opposite order -/
def Ex.stochModel' : Model := { Ex.stochModel with functions := Ex.stochModel.functions.reverse }

example : Ex.stochModel.functions.Perm Ex.stochModel'.functions := (List.reverse_perm _).symm
#guard (((functionInfo Ex.stochModel).filter (·.isNext)).map fun fi => (stripNext fi.name, fi.isStochasticNext)) == [("h", true), ("p", true)]
#guard ((solve Ex.stochModel' Ex.stochParams).map fun V => (V.shape, V.toFlat))
  == ((solve Ex.stochModel Ex.stochParams).map fun V => (V.shape, V.toFlat))
#guard (((solve Ex.stochModel Ex.stochParams).getD 0 default).toFlat.all fun v => v != .ninf)

/-- the value of every named state is the same whether a restriction is declared as a filter (applied when the
state-choice space is built) or as a constraint (applied inside the maximisation) -/
theorem C10_filter_as_constraint_value {m m' : Model} {P : Params} {nF nC : Name} (h : FilterToConstraint m m' P nF nC)
    (g g' : Groups) (t : Nat) (st : List (Name × Rat)) :
    specV m' P g' t none st = specV m P g t none st :=
  specV_filter_constraint h g g' t st

/-- **stored entries, last period**: the filter form stores the states that keep a feasible choice along a leading axis,
the constraint form (no filter left) stores every state; entries that belong to the same named state are equal -/
theorem C10_filter_as_constraint_last_period_entries {m m' : Model} {P : Params} {nF nC : Name}
    (h : FilterToConstraint m m' P nF nC)
    (hfn : (m.functions.map (·.name)).Nodup)
    (hnd : ((m.states ++ m.choices).map (·.1)).Nodup) (hnd' : ((m'.states ++ m'.choices).map (·.1)).Nodup)
    (t : Nat) (ht : t + 1 = m.nPeriods) (ht' : t + 1 = m'.nPeriods)
    (hsparse : (!((groups m).sS.isEmpty && (groups m).sC.isEmpty)) = true)
    (hdense' : (!((groups m').sS.isEmpty && (groups m').sC.isEmpty)) = false)
    (k : Nat) (hk : k < (feasOf m P t).length) (dIdx xIdx : List Nat)
    (hd : InBounds (sizes (groups m).dS) dIdx) (hx : InBounds (sizes (cStateGrids (groups m))) xIdx)
    (dIdx' xIdx' : List Nat)
    (hd' : InBounds (sizes (groups m').dS) dIdx') (hx' : InBounds (sizes (cStateGrids (groups m'))) xIdx')
    (hfs' : allTrue m' P (toEnv (pickAt (groups m').dS dIdx' ++ pickAt (cStateGrids (groups m')) xIdx') ++ periodEnv t)
      (filterNames m') = some true)
    (hsame : ((feasOf m P t)[k] ++ pickAt (groups m).dS dIdx ++ pickAt (cStateGrids (groups m)) xIdx).Perm
      (pickAt (groups m').dS dIdx' ++ pickAt (cStateGrids (groups m')) xIdx')) :
    ((solve m' P true).getD t default).get (dIdx' ++ xIdx')
      = ((solve m P true).getD t default).get (k :: (dIdx ++ xIdx)) :=
  (EntryOf.restricted hsparse k hk dIdx xIdx hd hx).agree_last_filter_constraint h hfn hnd hnd' ht ht'
    (.unrestricted hdense' dIdx' xIdx' hd' hx') hsame (fun h => nomatch hsparse.symm.trans h) (fun _ => hfs')

/-- the F1 witness with its period-dependent filter re-declared as a constraint -/
def Ex.f1AsConstraint : Model :=
  { Ex.f1Model with functions := Ex.f1Model.functions.map fun f =>
      if f.name == "p_filter" then { f with name := "p_constraint" } else f }

-- the filter form stores s = 1, 2 in the last period (shape [2]); the constraint form stores s = 0, 1, 2 with -inf at s = 0
#guard filterNames Ex.f1Model == ["p_filter"] && filterNames Ex.f1AsConstraint == []
#guard constraintNames Ex.f1AsConstraint == ["p_constraint"] && constraintNames Ex.f1Model == []
#guard ((solve Ex.f1Model Ex.f1Params).getD 1 default).toFlat == [.fin 11, .fin 21]
#guard ((solve Ex.f1AsConstraint Ex.f1Params).getD 1 default).toFlat == [.ninf, .fin 11, .fin 21]

/-- the F1 witness with its functions and (single) variables declared in another order -/
def Ex.f1Model' : Model := { Ex.f1Model with functions := Ex.f1Model.functions.reverse }

example : PermOf Ex.f1Model Ex.f1Model' :=
  ⟨rfl, List.Perm.refl _, List.Perm.refl _, (List.reverse_perm _).symm⟩
example : (Ex.f1Model.functions.map (·.name)).Nodup := by decide
#guard ((solve Ex.f1Model' Ex.f1Params).getD 1 default).toFlat == ((solve Ex.f1Model Ex.f1Params).getD 1 default).toFlat

-- non-vacuity
example : bellmanStep [0, 1, 2] (fun x => x != 1) (fun x => (x : Rat)) (fun _ => 0) 1
    = bellmanStep [2, 0, 1] (fun x => x != 1) (fun x => (x : Rat)) (fun _ => 0) 1 := by decide +kernel

end Lcm
