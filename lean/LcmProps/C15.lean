import LcmProofs.InterpBounds
import LcmProofs.LogGrid
namespace Lcm

/-! # C15 — interpolation kernel and grid coordinates are exact inverses of the grids

Model: `interp` (`LcmModel/Interp2.lean`), the recursive form of `map_coordinates` (clipped lower index
`clip(floor(c), 0, size-2)`, weights `1-w`, `w` with `w = c - lower`, *not* clipped - hence linear
extrapolation); `coordOf` / `get_linspace_coordinate`; `logCoord` = `get_logspace_coordinate` transcribed
line by line over ℝ (`LcmProofs/LogGrid.lean`; the driver runs the same text over `Float`). -/

/-- the code's corner-product sum (`itertools.product` over the per-axis pairs `[(lower, 1-w), (lower+1, w)]`, product of
the weights times the entry, summed over the 2^rank corners) **equals** the recursive form `interp` that the other
theorems are about - for every rank -/
theorem C15_corner_eq_rec (t : Tensor Rat) (cs : List Rat) (h : cs.length = t.shape.length) :
    interpCorners t cs = interp t cs := interpCorners_eq_interp h

/-- hence the value is the blend of the 2^rank surrounding entries with product weights -/
theorem C15_multilinear (t : Tensor Rat) (cs : List Rat) (h : cs.length = t.shape.length) :
    interp t cs = ((cornerProduct ((t.shape.zip cs).map fun p => axisData p.1 p.2)).map fun corner =>
      weightProduct corner * t.get (corner.map (·.1))).sum := (interpCorners_eq_interp h).symm

/-- integer coordinates return the array entries (any rank, every axis of size ≥ 2) -/
theorem C15_integer_coords (t : Tensor Rat) (idx : List Nat) (hb : InBounds t.shape idx)
    (h2 : ∀ n ∈ t.shape, 2 ≤ n) :
    interp t (idx.map fun (i : Nat) => (i : Rat)) = t.get idx := interp_nodes t hb h2

/-- along an axis the interpolant is the blend `(1-w)·lower + w·upper` of the two neighbouring slices, with
weights summing to one; `w` is not clipped, so outside the index range this *is* the linear continuation of
the boundary cell (the 2^rank-corner blend is this recursion unfolded) -/
theorem C15_blend (t : Tensor Rat) (c : Rat) (cs : List Rat) :
    let lo := lowerIdx' c (t.shape.headD 0)
    let w := c - (lo : Rat)
    interp t (c :: cs) = (1 - w) * interp (t.slice lo) cs + w * interp (t.slice (lo + 1)) cs := rfl

/-- for a fixed cell the interpolant is affine in the coordinate: linear between neighbouring nodes, linear
continuation of the boundary cell outside -/
theorem C15_affine_per_axis (t : Tensor Rat) (c : Rat) (cs : List Rat) :
    let lo := lowerIdx' c (t.shape.headD 0)
    interp t (c :: cs) = interp (t.slice lo) cs
      + (c - (lo : Rat)) * (interp (t.slice (lo + 1)) cs - interp (t.slice lo) cs) :=
  interp_affine_in_coord t c cs

/-- the cell used beyond the upper end is the last cell, below the lower end the first cell -/
theorem C15_boundary_cells (c : Rat) (size : Nat) (h2 : 2 ≤ size) :
    (((size : Rat) - 1) ≤ c → lowerIdx' c size = size - 2) ∧ (c ≤ 0 → lowerIdx' c size = 0) :=
  lowerIdx'_boundary c h2

/-- the lower index never leaves `[0, size-2]`: both touched slices exist -/
theorem C15_cell_in_range (c : Rat) (size : Nat) (h2 : 2 ≤ size) : lowerIdx' c size + 1 < size :=
  (lowerIdx'_spec c h2).1

/-- interpolation commutes with positive-affine maps of the array: the weights sum to one, also when
extrapolating -/
theorem C15_weights_sum_to_one (a b : Rat) (t : Tensor Rat) (cs : List Rat) :
    interp (Tensor.affine a b t) cs = a * interp t cs + b := interp_affine a b t cs

theorem C15_lin_coord_node (a b : Rat) (n i : Nat) (hab : a < b) (hn : 2 ≤ n) :
    coordOf (.lin a b n) (a + (i : Rat) * ((b - a) / ((n : Rat) - 1))) = i :=
  gridCoord_node (gridStep_pos hab hn).ne'

theorem C15_lin_coord_strictMono (a b : Rat) (n : Nat) (hab : a < b) (hn : 2 ≤ n) (v w : Rat) (hvw : v < w) :
    coordOf (.lin a b n) v < coordOf (.lin a b n) w :=
  div_lt_div_of_pos_right (sub_lt_sub_right hvw a) (gridStep_pos hab hn)

theorem C15_lin_roundtrip (a b : Rat) (n : Nat) (hab : a < b) (hn : 2 ≤ n) (v : Rat) :
    interp (linTensor a b n) [coordOf (.lin a b n) v] = v := lin_roundtrip hab hn v

theorem C15_log_cell (v a b : ℝ) (n : ℕ) (ha : 0 < a) (hab : a < b) (hn : 2 ≤ n) (hv : 0 < v)
    (r : ℝ) (hr : r = ((⌊(Real.log v - Real.log a) / ((Real.log b - Real.log a) / ((n : ℝ) - 1))⌋ : ℤ) : ℝ)) :
    logNode a b n r ≤ v ∧ v < logNode a b n (r + 1) := log_cell ha hab hn hv hr

theorem C15_log_coord_in_cell (v a b : ℝ) (n : ℕ) (ha : 0 < a) (hab : a < b) (hn : 2 ≤ n) (hv : 0 < v)
    (r : ℝ) (hr : r = ((⌊(Real.log v - Real.log a) / ((Real.log b - Real.log a) / ((n : ℝ) - 1))⌋ : ℤ) : ℝ)) :
    r ≤ logCoord v a b n ∧ logCoord v a b n < r + 1 := logCoord_in_cell ha hab hn hv hr

theorem C15_log_coord_node (a b : ℝ) (n : ℕ) (ha : 0 < a) (hab : a < b) (hn : 2 ≤ n) (k : ℕ) :
    logCoord (logNode a b n k) a b n = k := logCoord_node ha hab hn k

/-- log-grid round trip: blending the two nodes of the cell with the fractional part of the coordinate
returns the value -/
theorem C15_log_roundtrip (v a b : ℝ) (n : ℕ) (ha : 0 < a) (hab : a < b) (hn : 2 ≤ n) (hv : 0 < v)
    (r : ℝ) (hr : r = ((⌊(Real.log v - Real.log a) / ((Real.log b - Real.log a) / ((n : ℝ) - 1))⌋ : ℤ) : ℝ)) :
    let w := logCoord v a b n - r
    (1 - w) * logNode a b n r + w * logNode a b n (r + 1) = v := by
  obtain ⟨hlo, hup⟩ := log_cell ha hab hn hv hr
  intro w
  have hw : w * (logNode a b n (r + 1) - logNode a b n r) = v - logNode a b n r := by
    simp only [w]
    rw [logCoord_eq hr, add_sub_cancel_left, div_mul_cancel₀ _ (sub_pos.mpr (hlo.trans_lt hup)).ne']
  linear_combination hw

/-- strict monotonicity of the log coordinate across cells and inside a cell follows from the cell bounds:
a value in a later cell has a larger coordinate -/
theorem C15_log_coord_mono_across_cells (v w a b : ℝ) (n : ℕ) (ha : 0 < a) (hab : a < b) (hn : 2 ≤ n)
    (hv : 0 < v) (hw : 0 < w)
    (r s : ℝ) (hr : r = ((⌊(Real.log v - Real.log a) / ((Real.log b - Real.log a) / ((n : ℝ) - 1))⌋ : ℤ) : ℝ))
    (hs : s = ((⌊(Real.log w - Real.log a) / ((Real.log b - Real.log a) / ((n : ℝ) - 1))⌋ : ℤ) : ℝ))
    (hrs : r + 1 ≤ s) : logCoord v a b n < logCoord w a b n :=
  (logCoord_in_cell ha hab hn hv hr).2.trans_le
    (hrs.trans (logCoord_in_cell ha hab hn hw hs).1)

/-- inside the array (every coordinate in `[0, size - 1]`) both weights of every axis are non-negative: a pointwise larger
array gives a larger interpolated value, for every rank. Outside, one of the two weights is negative (linear
extrapolation) and the statement fails - the second `example` below. -/
theorem C15_monotone_in_values_inside (t t' : Tensor Rat) (cs : List Rat)
    (hshape : t'.shape = t.shape) (hlen : cs.length = t.shape.length) (h2 : ∀ n ∈ t.shape, 2 ≤ n)
    (hin : ∀ p ∈ cs.zip t.shape, 0 ≤ p.1 ∧ p.1 ≤ (p.2 : Rat) - 1)
    (hle : ∀ idx, InBounds t.shape idx → t.get idx ≤ t'.get idx) :
    interp t cs ≤ interp t' cs :=
  interp_mono t t' cs hshape hlen h2 hin hle

/-- the weight of the upper neighbour lies in `[0, 1]` exactly because the coordinate is inside -/
theorem C15_weights_in_unit_interval_inside (c : Rat) (size : Nat) (h2 : 2 ≤ size) (h0 : 0 ≤ c)
    (h1 : c ≤ (size : Rat) - 1) :
    0 ≤ c - (lowerIdx' c size : Rat) ∧ c - (lowerIdx' c size : Rat) ≤ 1 :=
  weight_mem_unit c size h2 h0 h1

example : interp (linTensor 0 2 3) [coordOf (.lin 0 2 3) (5/2)] = 5/2 := by decide +kernel
example : coordOf (.lin (-1) 1 5) (1/2) = 3 := by decide +kernel
-- inside: larger array, larger value; outside (coordinate 2 on an axis of size 2): the order is reversed
example : let t : Tensor Rat := { shape := [2], get := fun _ => 0 }
    let t' : Tensor Rat := { shape := [2], get := fun idx => if idx.headD 0 = 0 then 1 else 0 }
    interp t [1/3] ≤ interp t' [1/3] ∧ ¬ (interp t [2] ≤ interp t' [2]) := by decide +kernel

end Lcm
