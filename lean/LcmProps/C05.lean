import LcmProps.C01
namespace Lcm
attribute [local irreducible] groups

/-! # C05 — value arrays follow the documented axis layout

Model: `solve` / `solvePeriod` / `groups` / `variableInfo` (`LcmModel/Solve.lean`, `Input.lean`).
In the supported class every filter involves a state, so "some variable is filter-restricted" and "some
state is filter-restricted" coincide; the model (like the code) keys the leading axis on the former. -/

/-- a list of `n_periods` arrays (chronological order: index = period, see `C01_backward_recursion`) -/
theorem C05_length (m : Model) (P : Params) : (solve m P true).length = m.nPeriods := solve_length m P true

/-- **shape**: first (only if a variable is filter-restricted) one axis of length "number of restricted-state
combinations that admit a filter-passing choice in period `t`", then one axis per unrestricted discrete state,
then one axis per continuous state, each of the length of its grid -/
theorem C05_shape (m : Model) (P : Params) (t : Nat) (ht : t < m.nPeriods) :
    ((solve m P true).getD t default).shape
      = (if !((groups m).sS.isEmpty && (groups m).sC.isEmpty) then [(feasOf m P t).length] else [])
          ++ sizes (groups m).dS ++ sizes (cStateGrids (groups m)) :=
  solve_shape P ht

/-- the leading axis enumerates, in row-major order of the restricted states' grids, exactly those
combinations that have at least one filter-passing restricted-choice combination in period `t` -/
theorem C05_leading_axis (m : Model) (P : Params) (t : Nat) :
    feasOf m P t = (assignments (groups m).sS).filter fun s => (assignments (groups m).sC).any (spaceFilt m P t s) := rfl

/-- within each group the axes follow the **declaration order**: the canonical variable list filtered by a
state group equals the declared list filtered by that group … -/
theorem C05_restricted_states_in_declaration_order (m : Model) :
    (variableInfo m).filter (fun v => v.isSparse && v.isState)
      = (declaredInfo m).filter (fun v => v.isSparse && v.isState) :=
  variableInfo_filter 0 fun _ _ h => h

theorem C05_unrestricted_discrete_states_in_declaration_order (m : Model) :
    (variableInfo m).filter (fun v => v.isDense && v.isDiscrete && v.isState)
      = (declaredInfo m).filter (fun v => v.isDense && v.isDiscrete && v.isState) :=
  variableInfo_filter 2 fun _ _ h => h

theorem C05_continuous_states_in_declaration_order (m : Model) :
    (variableInfo m).filter (fun v => v.isDense && v.isContinuous && v.isState)
      = (declaredInfo m).filter (fun v => v.isDense && v.isContinuous && v.isState) :=
  variableInfo_filter 4 fun _ _ h => h

/-- … and the declared list keeps the user's order: the names of every state group are a sublist of
`model.states` -/
theorem C05_group_names_sublist_of_declaration (m : Model) (p : VariableInfo → Bool)
    (hp : ∀ v, p v = true → v.isState = true) :
    (((declaredInfo m).filter p).map (·.name)).Sublist (m.states.map (·.1)) :=
  declaredInfo_states_sublist m hp

/-- the entry at an index is the Bellman value of the state the layout assigns to it: `C01_entry_isMax_*`
(restated here for the restricted layout: index `k :: dIdx ++ xIdx` ↦ `k`-th feasible restricted combination,
unrestricted labels `dIdx`, continuous nodes `xIdx`) -/
theorem C05_entry (m : Model) (P : Params) (t : Nat) (ht : t < m.nPeriods)
    (hsparse : (!((groups m).sS.isEmpty && (groups m).sC.isEmpty)) = true)
    (k : Nat) (hk : k < (feasOf m P t).length) (dIdx xIdx : List Nat)
    (hd : InBounds (sizes (groups m).dS) dIdx) (hx : InBounds (sizes (cStateGrids (groups m))) xIdx) :
    let g := groups m
    let next := nextOf m P (solve m P true) t
    IsMaxOver
      (fun x : List (Name × Rat) × (List (Name × Rat) × List (Name × Rat)) =>
        (x.1 ∈ assignments g.sC ∧ spaceFilt m P t ((feasOf m P t)[k]) x.1 = true) ∧
          (x.2.1 ∈ assignments g.dC ∧ (x.2.2 ∈ assignments g.cC ∧
            feasibleOf (objAt m P g t next ((feasOf m P t)[k]) dIdx xIdx x.1 x.2.1 x.2.2) = true)))
      (fun x => valueOf (objAt m P g t next ((feasOf m P t)[k]) dIdx xIdx x.1 x.2.1 x.2.2))
      (((solve m P true).getD t default).get (k :: (dIdx ++ xIdx))) :=
  solve_entry_isMax_restricted m P t ht hsparse k hk dIdx xIdx hd hx

/-- **the layout contract in one sentence**: the entry at index `(k, dIdx, xIdx)` of the period-`t` array is the
Bellman value - by plain enumeration, `specV` - *of the state the contract assigns to that index*: the `k`-th feasible
combination of the filter-restricted states (row-major, declaration order) together with the `dIdx`-th labels of the
unrestricted discrete states and the `xIdx`-th nodes of the continuous states (declaration order). A transposed,
mis-ordered or shifted layout would make this false for some utility. -/
theorem C05_entry_is_value_of_the_state_at_that_index (m : Model) (P : Params) (t : Nat) (ht : t < m.nPeriods)
    (hsparse : (!((groups m).sS.isEmpty && (groups m).sC.isEmpty)) = true)
    (k : Nat) (hk : k < (feasOf m P t).length) (dIdx xIdx : List Nat)
    (hd : InBounds (sizes (groups m).dS) dIdx) (hx : InBounds (sizes (cStateGrids (groups m))) xIdx)
    (hnd : ((m.states ++ m.choices).map (·.1)).Nodup) :
    ((solve m P true).getD t default).get (k :: (dIdx ++ xIdx))
      = specV m P (groups m) t (nextOf m P (solve m P true) t)
          ((feasOf m P t)[k] ++ pickAt (groups m).dS dIdx ++ pickAt (cStateGrids (groups m)) xIdx) :=
  C01_entry_eq_spec_restricted m P t ht hsparse k hk dIdx xIdx hd hx hnd

theorem C05_entry_is_value_of_the_state_at_that_index_unrestricted (m : Model) (P : Params) (t : Nat) (ht : t < m.nPeriods)
    (hdense : (!((groups m).sS.isEmpty && (groups m).sC.isEmpty)) = false)
    (dIdx xIdx : List Nat)
    (hd : InBounds (sizes (groups m).dS) dIdx) (hx : InBounds (sizes (cStateGrids (groups m))) xIdx)
    (hnd : ((m.states ++ m.choices).map (·.1)).Nodup)
    (hfs : allTrue m P (toEnv (pickAt (groups m).dS dIdx ++ pickAt (cStateGrids (groups m)) xIdx) ++ periodEnv t)
      (filterNames m) = some true) :
    ((solve m P true).getD t default).get (dIdx ++ xIdx)
      = specV m P (groups m) t (nextOf m P (solve m P true) t)
          (pickAt (groups m).dS dIdx ++ pickAt (cStateGrids (groups m)) xIdx) :=
  C01_entry_eq_spec_unrestricted m P t ht hdense dIdx xIdx hd hx hnd hfs

-- non-vacuity: shapes of the F1 witness change with the period ([3] then [2])
#guard ((solve Ex.f1Model Ex.f1Params).map (·.shape)) = [[3], [2]]
#guard ((solve Ex.consModel Ex.consParams).map (·.shape)) = [[3], [3], [3]]

end Lcm
