import LcmProofs.SimPanel
namespace Lcm

/-! # C08 — agents are simulated independently of each other

Model: `agentDecision` inside `simulatePeriod`; all agents of a batch share one data state-choice space
(`repeat` × `tile` product with the restricted choices, one boolean mask, segment ids). The theorems show that
this sharing is not observable: the decision of an agent is a function of its own state. Hypothesis: the agent
has at least one filter-passing restricted choice (otherwise `num_segments = #unique` shifts the rows - outside
the supported inputs). -/

/-- the decision of agent `i` inside any batch equals its decision when simulated alone, tie rule included -/
theorem C08_decision_alone (m : Model) (P : Params) (g : Groups) (t : Nat)
    (next : Option (Tensor Ext × List (List (Name × Rat)))) (states : List (List (Name × Rat)))
    (i : Nat) (hi : i < states.length)
    (hne : (assignments g.sC).filter (agentFilt m P g t (states.getD i [])) ≠ []) :
    agentDecision m P g t next states i = agentDecision m P g t next [states.getD i []] 0 :=
  agentDecision_alone m P g t next states i hi hne

/-- permutation, subset and duplication in one statement: whatever two batches look like, an agent with the
same state gets the same decision and value in both -/
theorem C08_batch_irrelevant (m : Model) (P : Params) (g : Groups) (t : Nat)
    (next : Option (Tensor Ext × List (List (Name × Rat)))) (B B' : List (List (Name × Rat)))
    (i i' : Nat) (hi : i < B.length) (hi' : i' < B'.length) (hst : B.getD i [] = B'.getD i' [])
    (hne : (assignments g.sC).filter (agentFilt m P g t (B.getD i [])) ≠ []) :
    agentDecision m P g t next B i = agentDecision m P g t next B' i' :=
  agentDecision_batch_irrelevant next hi hi' hst hne

/-- in any model (stochastic or not) the period-0 decision and value of an agent depend only on its own state -/
theorem C08_period0_any_model (m : Model) (P : Params) (V : List (Tensor Ext))
    (B B' : List (List (Name × Rat))) (draws draws' : Draws) (i i' : Nat) (hT : 0 < m.nPeriods)
    (hi : i < B.length) (hi' : i' < B'.length) (hst : B.getD i [] = B'.getD i' [])
    (hne : (assignments (groups m).sC).filter (agentFilt m P (groups m) 0 (B.getD i [])) ≠ []) :
    ((simulate m P V B draws true).getD 0 []).getD i default
      = ((simulate m P V B' draws' true).getD 0 []).getD i' default := by
  rw [simulate_record P V draws hT hi, simulate_record P V draws' hT hi']
  exact agentDecision_batch_irrelevant (simNext m P V 0) hi hi' hst hne

/-- **whole paths, models without stochastic transitions**: the record (value, choices, states) of agent `i`
in *every* period equals the record the agent gets when simulated alone; hence permuting the agents permutes
the rows, any subset gives the same paths, duplicating an agent duplicates its path -/
theorem C08_path_alone (m : Model) (P : Params) (V : List (Tensor Ext)) (init : List (List (Name × Rat)))
    (draws draws' : Draws) (i : Nat) (hi : i < init.length) (hdet : Deterministic m)
    (hne : ∀ t, (assignments (groups m).sC).filter
      (agentFilt m P (groups m) t ((statesAt m P V [init.getD i []] draws' t).getD 0 [])) ≠ [])
    (t : Nat) (ht : t < m.nPeriods) :
    ((simulate m P V init draws true).getD t []).getD i default
      = ((simulate m P V [init.getD i []] draws' true).getD t []).getD 0 default :=
  record_alone draws hi hdet hne ht

/-- two batches (permutation / subset / duplication of each other) give an agent with the same initial state
the same path -/
theorem C08_paths_batch_irrelevant (m : Model) (P : Params) (V : List (Tensor Ext))
    (B B' : List (List (Name × Rat))) (draws draws' draws'' : Draws) (i i' : Nat) (hi : i < B.length) (hi' : i' < B'.length)
    (hst : B.getD i [] = B'.getD i' []) (hdet : Deterministic m)
    (hne : ∀ t, (assignments (groups m).sC).filter
      (agentFilt m P (groups m) t ((statesAt m P V [B.getD i []] draws'' t).getD 0 [])) ≠ [])
    (t : Nat) (ht : t < m.nPeriods) :
    ((simulate m P V B draws true).getD t []).getD i default
      = ((simulate m P V B' draws' true).getD t []).getD i' default := by
  rw [record_alone draws hi hdet hne ht,
    record_alone draws' hi' hdet (by rw [← hst]; exact hne) ht, hst]

/-- the number of agents is preserved over the periods (no agent is lost or duplicated by the loop) -/
theorem C08_batch_size_constant (m : Model) (P : Params) (V : List (Tensor Ext))
    (init : List (List (Name × Rat))) (draws : Draws) (t : Nat) :
    (statesAt m P V init draws t).length = init.length :=
  statesAt_length m P V init draws t

/-- **the empty batch**: simulating no agents gives, in every period, no records (what finding K23 says the implementation
should return instead of raising) -/
theorem C08_empty_batch (m : Model) (P : Params) (V : List (Tensor Ext)) (draws : Draws) (t : Nat) (ht : t < m.nPeriods) :
    (simulate m P V [] draws true).getD t [] = [] :=
  List.eq_nil_of_length_eq_zero (simulate_period_length P V [] draws ht)

end Lcm
