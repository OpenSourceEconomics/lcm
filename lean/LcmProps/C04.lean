import LcmProofs.Keys
namespace Lcm

/-! # C04 — stochastic draws: specified probabilities, independent, seed-reproducible (partial)

What is provable: (1) the **key schedule** of `simulate` (`LcmModel/Keys.lean`: PRNG keys as paths in the
split tree below `PRNGKey(seed)`; per period `split(key, n_vars + 1)`, element 0 carried, element j+1 handed
to the j-th stochastic transition, which splits once per agent) never uses a key twice and never consumes a
key that is also split - the JAX contract under which draws are independent across agents, periods and
variables; (2) the **sampler arithmetic** of `jax.random.choice(p=...)`: a label of probability zero is never
returned, the result is a valid label, and label `k` is hit exactly on an interval of length `p_k`.
The distribution itself rests on the uniformity of threefry bits (trusted) and is *not* a theorem; it is
covered by the exact reproduction of every draw along the model's key paths and by chi-square tests. -/

/-- (period, variable, agent) ↦ consumed key is injective: no two draws share a key -/
theorem C04_key_injective (nv nA : Nat) (t j i t' j' i' : Nat) (hj : j < nv) (hi : i < nA)
    (hj' : j' < nv) (hi' : i' < nA) (h : agentKey nv nA t j i = agentKey nv nA t' j' i') :
    t = t' ∧ j = j' ∧ i = i' :=
  agentKey_prefix_free hj hi hj' hi' (h ▸ List.prefix_refl _)

/-- no consumed key is an ancestor (in the split tree) of another consumed key -/
theorem C04_key_prefix_free (nv nA : Nat) (t j i t' j' i' : Nat) (hj : j < nv) (hi : i < nA)
    (hj' : j' < nv) (hi' : i' < nA) (h : agentKey nv nA t j i <+: agentKey nv nA t' j' i') :
    t = t' ∧ j = j' ∧ i = i' :=
  agentKey_prefix_free hj hi hj' hi' h

/-- the closed form of the schedule: the key of (t, j, i) is the path 0^t · (j+1) · i -/
theorem C04_key_path (nv nA t j i : Nat) (hj : j < nv) (hi : i < nA) :
    agentKey nv nA t j i = List.replicate t 0 ++ [j + 1, i] :=
  agentKey_eq t hj hi

/-- the key carried to the next period is never consumed by a draw (it is only ever split) -/
theorem C04_carried_never_consumed (nv nA t t' j i : Nat) (hj : j < nv) (hi : i < nA) :
    carried t' ≠ agentKey nv nA t j i :=
  agentKey_ne_of_proper_prefix t t' hj hi hj hi
    (by rw [carried_eq, agentKey_eq t' hj hi]; exact List.prefix_append _ _) (by rw [carried_eq]; simp)

/-- the per-variable key (which is split per agent) is never itself consumed -/
theorem C04_variable_key_never_consumed (nv nA t t' j j' i : Nat) (hj : j < nv) (hj' : j' < nv) (hi : i < nA) :
    varKey nv t' j' ≠ agentKey nv nA t j i :=
  agentKey_ne_of_proper_prefix t t' hj hi hj' hi
    (by rw [varKey_eq t' hj', agentKey_eq t' hj' hi]; exact ⟨[i], by simp⟩)
    (by rw [varKey_eq t' hj']; simp)

/-- seed-determinism is a triviality of the model (the schedule is a function of the seed's root key);
period 0 consumes no key at all: the first draw happens *after* the period-0 decisions -/
theorem C04_period0_seed_free (nv nA t j i : Nat) (hj : j < nv) (hi : i < nA) :
    (agentKey nv nA t j i).length = t + 2 := by
  rw [agentKey_eq t hj hi]; simp

/-- the drawn index is a valid label whenever `r ≤ total` -/
theorem C04_label_in_range (p : List Rat) (r : Rat) (hr : r ≤ p.sum) (hne : p ≠ []) :
    choiceOfUniform p r < p.length :=
  searchCum_lt (by rwa [zero_add]) hne

/-- cumulative probability before label `k` -/
def cumBefore (p : List Rat) (k : Nat) : Rat := (p.take k).sum

/-- **label `k` is drawn exactly when `r` falls into an interval of length `p_k`**:
`cum_{k-1} < r ≤ cum_{k-1} + p_k` (necessity; with uniform `r` this is probability `p_k / total`) -/
theorem C04_interval_of_label (p : List Rat) (r : Rat) (k : Nat) (hk : k < p.length)
    (h : choiceOfUniform p r = k) (hr : 0 < r) :
    cumBefore p k < r ∧ r ≤ cumBefore p k + p[k] := by
  simpa only [cumBefore, zero_add] using searchCum_interval hk h hr

/-- **a label with probability zero is never drawn** (for every `r` in `(0, total]`, i.e. every key): the interval on
which it would be drawn is empty -/
theorem C04_zero_never_drawn (p : List Rat) (r : Rat) (hr : 0 < r)
    (hk : choiceOfUniform p r < p.length) : 0 < p[choiceOfUniform p r]'hk := by
  have := C04_interval_of_label p r _ hk rfl hr
  linarith

-- non-vacuity: a row with a zero and a point mass
example : choiceOfUniform [0, 1/2, 0, 1/2] (1/4) = 1 ∧ choiceOfUniform [0, 1/2, 0, 1/2] (3/4) = 3 ∧
    choiceOfUniform [0, 0, 1] 1 = 2 := by decide +kernel
example : agentKey 2 3 1 1 2 = [0, 2, 2] := by decide

end Lcm
