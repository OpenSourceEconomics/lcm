import LcmProofs.SimStep
import LcmModel.Kernels
import LcmProofs.Tensor
namespace Lcm

/-! # C18 — maximisers returned by the arg-max primitives attain the maximum (partial)

Model: `argmaxBlock` (`lcm.argmax.argmax` on one flattened block: masked max with initial −inf, equality
mask ∧ where, `jnp.argmax` of the Boolean vector = first True, 0 if none), `segArgmaxAt` (`segment_argmax`:
segment max, equality mask × row number, segment max of that = last maximiser), `denseMaxAt` / `segMaxAt`
(`_solve_discrete_problem_no_shocks`). `argmaxND` / `segmentArgmaxND` (served to the harness) apply these per
front index after `_move_axes_to_back` / `_flatten_last_n_axes` (`mergeIdx`).
Partial: "also when the array is produced inside the same JIT-compiled computation" concerns XLA evaluating an
expression twice with different rounding; in the model an array element has one value. Covered by the
fused-producer differential stream only. -/

/-- the returned position is an unmasked element whose value equals the masked maximum -/
theorem C18_argmax_attains (xs : List Ext) (mask : List Bool) (hlen : xs.length = mask.length)
    (hm : maskedMax xs mask ≠ .ninf) :
    ∃ hj : (argmaxBlock xs mask).1 < xs.length,
      mask[(argmaxBlock xs mask).1]'(by omega) = true ∧ xs[(argmaxBlock xs mask).1] = maskedMax xs mask :=
  argmaxBlock_spec xs mask hlen hm

/-- … together with that maximum -/
theorem C18_argmax_value (xs : List Ext) (mask : List Bool) : (argmaxBlock xs mask).2 = maskedMax xs mask :=
  argmaxBlock_snd xs mask

/-- **first** such position on ties: no earlier position is an unmasked maximiser -/
theorem C18_argmax_first (xs : List Ext) (mask : List Bool) (j : Nat)
    (hj : j < (argmaxBlock xs mask).1) (hjx : j < xs.length) (hjm : j < mask.length) :
    ¬ (xs[j] = maskedMax xs mask ∧ mask[j] = true) := by
  intro ⟨hx, hmk⟩
  rw [argmaxBlock_fst] at hj
  have := getElem_of_lt_firstTrue hj (by simp [hjx, hjm])
  simp [hx, hmk] at this

/-- position 0 and the initial value −inf when everything is masked -/
theorem C18_argmax_all_masked (xs : List Ext) (mask : List Bool) (h : ∀ b ∈ mask, b = false) :
    argmaxBlock xs mask = (0, .ninf) := by
  refine Prod.ext (firstTrue_eq_zero fun b hb => ?_) (maskedMax_all_false xs h)
  obtain ⟨p, hp, rfl⟩ := List.mem_map.mp hb
  simp [h p.2 (List.of_mem_zip hp).2]

/-- the segment-wise arg-max returns, for every non-empty segment, a row of that segment attaining the
segment maximum (the model returns the last one; the property does not fix which) -/
theorem C18_segment_argmax (vals : List Ext) (segIds : List Nat) (hlen : vals.length = segIds.length) (k : Nat)
    (hne : ∃ r, ∃ hr : r < segIds.length, segIds[r] = k) :
    ∃ hr : (segArgmaxAt vals segIds k).1 < vals.length,
      segIds[(segArgmaxAt vals segIds k).1]'(by omega) = k ∧
      vals[(segArgmaxAt vals segIds k).1] = segMaxAt vals segIds k :=
  segArgmaxAt_spec vals segIds hlen k hne

theorem C18_segment_max_value (vals : List Ext) (ids : List Nat) (k : Nat) :
    (segArgmaxAt vals ids k).2 = segMaxAt vals ids k := segArgmaxAt_snd vals ids k

/-- reducing the choice axes by maximum and then by segment maximum gives, for every state, the maximum over
all discrete choice combinations of that state (restricted `c` × unrestricted `e`, and the continuous problem
inside) -/
theorem C18_discrete_problem {S C E Y : Type} (scGrid : List C) (dcGrid : List E) (ccGrid : List Y)
    (filt : S → C → Bool) (q : S → C → E → Y → Rat) (feas : S → C → E → Y → Bool) (s : S) :
    IsMaxOver
      (fun x : C × (E × Y) =>
        (x.1 ∈ scGrid ∧ filt s x.1 = true) ∧ (x.2.1 ∈ dcGrid ∧ (x.2.2 ∈ ccGrid ∧ feas s x.1 x.2.1 x.2.2 = true)))
      (fun x => q s x.1 x.2.1 x.2.2)
      (foldMax ((scGrid.filter (filt s)).map fun c => denseMaxAt dcGrid ccGrid q feas (s, c))) :=
  denseSeg_isMax scGrid dcGrid ccGrid filt q feas s

/-- the segment maximum with the ids of `create_indexers_and_segments` collects exactly the stored rows of
the `k`-th feasible state -/
theorem C18_segments_group_by_state {S C : Type} (ssGrid : List S) (scGrid : List C) (filt : S → C → Bool)
    (g : S × C → Ext) (k : Nat) (hk : k < (feasStates ssGrid scGrid filt).length) :
    segMaxAt ((combos ssGrid scGrid filt).map g) (segIdsImpl ssGrid scGrid filt) k
      = foldMax ((scGrid.filter (filt ((feasStates ssGrid scGrid filt)[k]))).map fun c =>
          g ((feasStates ssGrid scGrid filt)[k], c)) :=
  segMaxAt_combos ssGrid scGrid filt g k hk

/-- "flattened position": the block over which `argmax` works enumerates the reduced axes in C order (row-major over the
axes as listed, after `_move_axes_to_back` + `_flatten_last_n_axes`), so position `ravel shape idx` of the block is the
multi-index `idx` - `jnp.unravel_index(position, shape)` recovers the maximiser -/
theorem C18_flattened_c_order (shape idx : List Nat) (h : InBounds shape idx) :
    (allIdx shape)[ravel shape idx]? = some idx := getElem_allIdx_ravel shape idx h

theorem C18_block_size (shape : List Nat) : (allIdx shape).length = shape.prod := length_allIdx shape

/-- the n-d primitive applies the block primitive per front index (definitional): position and maximum at a front index
are `argmaxBlock` of the block of that front index -/
theorem C18_argmaxND_per_front_index (a : Tensor Ext) (axes : List Nat) (mask : Option (Tensor Bool)) (fidx : List Nat) :
    let ndim := a.shape.length
    let block := allIdx (axes.map fun p => a.shape.getD p 0)
    ((argmaxND a axes mask).1.get fidx, (argmaxND a axes mask).2.get fidx)
      = argmaxBlock (block.map fun j => a.get (mergeIdx ndim axes fidx j))
          (block.map fun j => match mask with | some mk => mk.get (mergeIdx ndim axes fidx j) | none => true) := by
  -- `argmaxND` opened by name first: left to `rfl` alone the unifier unfolds both sides in step, at twice the cost
  unfold argmaxND
  rfl

-- non-vacuity (ties, masks): first maximiser; all masked
example : argmaxBlock [.fin 1, .fin 3, .fin 3, .fin 2] [true, true, true, true] = (1, .fin 3) := by decide +kernel
example : argmaxBlock [.fin 1, .fin 3, .fin 3, .fin 2] [true, false, true, true] = (2, .fin 3) := by decide +kernel
example : argmaxBlock [.fin 1, .fin 3] [false, false] = (0, .ninf) := by decide +kernel
example : segArgmaxAt [.fin 1, .fin 5, .fin 5, .fin 2] [0, 0, 0, 1] 0 = (2, .fin 5) := by decide +kernel

/-! ## the empty set of axes (finding F9): nothing is reduced -/

/-- with no axis to reduce over, every position is 0 (each element is its own block) -/
theorem C18_argmax_empty_axes_position (a : Tensor Ext) (mask : Option (Tensor Bool)) (fidx : List Nat) :
    (argmaxND a [] mask).1.get fidx = 0 := by
  simp only [argmaxND, List.map_nil, allIdx]
  simp [argmaxBlock, firstTrue]

/-- and both results have the shape of the array -/
theorem C18_argmax_empty_axes_shape (a : Tensor Ext) (mask : Option (Tensor Bool)) :
    (argmaxND a [] mask).1.shape = a.shape ∧ (argmaxND a [] mask).2.shape = a.shape := by
  have : (argmaxND a [] mask).1.shape = a.shape := by
    simp only [argmaxND]
    rw [List.filter_eq_self.mpr (by simp)]
    exact List.ext_getElem (by simp) fun i _ h => by simp [h]
  exact ⟨this, this⟩

end Lcm
