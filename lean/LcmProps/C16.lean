import LcmModel.GridsPy
import LcmProofs.InterpT
import LcmProofs.LogGrid
namespace Lcm

/-! # C16 — a grid is either rejected or materialises exactly as specified

Model: `validateContinuous` / `validateLogspace` / `validateDiscrete` over Python values (`PyVal`: int, bool ⊂
int, float incl. ±inf / nan, str, None, other) with Python's comparison semantics; `Grid.points` for
`jnp.linspace`; `logNode` (over ℝ) for `jnp.logspace(log start, log stop, n, base=e)`. The model mirrors the
code *after* the repair F3 (`repaired = true`: finite bounds, positive start for log grids). Float
representability (|x| > 1e38 in float32, spacing below the float resolution) is outside exact arithmetic. -/

/-- decision logic of the continuous-grid validation, stated outright (`finiteAsFloat`: a float that is neither ±inf nor
nan, or an int that can be converted to a float - repairs F3 and F11) -/
theorem C16_continuous_accept_iff (start stop n : PyVal) :
    validateContinuous start stop n true = true ↔
      (start.isNumber = true ∧ stop.isNumber = true ∧ n.isInt = true ∧ 1 ≤ n.asInt ∧
        start.toFloat.ge stop.toFloat = false ∧ start.finiteAsFloat = true ∧ stop.finiteAsFloat = true) := by
  -- the order and finiteness tests are guarded by the two `isNumber` tests, which are conjuncts themselves
  unfold validateContinuous
  cases start.isNumber <;> cases stop.isNumber <;> simp [and_assoc]

theorem finiteAsFloat_toFloat {v : PyVal} (h : v.finiteAsFloat = true) : ∃ q : Rat, v.toFloat = .fin q := by
  cases v with
  | float f => cases f <;> simp_all [PyVal.finiteAsFloat, PyFloat.isFinite, PyVal.toFloat]
  | int i => exact ⟨i, rfl⟩
  | bool b => exact ⟨_, rfl⟩
  | _ => simp [PyVal.finiteAsFloat] at h

/-- an int bound is accepted only below the largest float: `|i| < floatIntBound = 2^1024 - 2^970` -/
theorem C16_int_bound_in_float_range (i : Int) (stop n : PyVal) (h : validateContinuous (.int i) stop n true = true) :
    i.natAbs < floatIntBound := by
  rw [C16_continuous_accept_iff] at h
  simpa [PyVal.finiteAsFloat] using h.2.2.2.2.2.1

/-- accepted bounds are finite rationals with `start < stop` -/
theorem C16_accepted_bounds (start stop n : PyVal) (h : validateContinuous start stop n true = true) :
    ∃ a b : Rat, start.toFloat = .fin a ∧ stop.toFloat = .fin b ∧ a < b := by
  rw [C16_continuous_accept_iff] at h
  obtain ⟨_, _, _, _, hge, hfa, hfb⟩ := h
  obtain ⟨a, ha⟩ := finiteAsFloat_toFloat hfa
  obtain ⟨b, hb⟩ := finiteAsFloat_toFloat hfb
  exact ⟨a, b, ha, hb, by simpa [ha, hb, PyFloat.ge] using hge⟩

/-- a log grid additionally needs a strictly positive start -/
theorem C16_logspace_accept_iff (start stop n : PyVal) :
    validateLogspace start stop n true = true ↔
      (validateContinuous start stop n true = true ∧ ∃ q : Rat, start.toFloat = .fin q ∧ 0 < q) := by
  unfold validateLogspace
  cases h : start.toFloat <;> simp

/-- exactly `n_points` values -/
theorem C16_lin_length (a b : Rat) (n : Nat) (hn : 1 ≤ n) : (Grid.points (.lin a b n)).length = n := by
  unfold Grid.points
  by_cases h : n ≤ 1
  · have : n = 1 := by omega
    simp [this]
  · simp [h]

/-- first element = start, last element = stop (two or more points), equal spacing, strictly increasing -/
theorem C16_lin_exact (a b : Rat) (n : Nat) (hab : a < b) (hn : 2 ≤ n) :
    (Grid.points (.lin a b n))[0]? = some a ∧
    (Grid.points (.lin a b n))[n - 1]? = some b ∧
    (∀ i, i + 1 < n → ∃ x y, (Grid.points (.lin a b n))[i]? = some x ∧ (Grid.points (.lin a b n))[i + 1]? = some y ∧
        y - x = (b - a) / ((n : Rat) - 1) ∧ x < y) := by
  refine ⟨?_, ?_, fun i hi => ⟨_, _, lin_points_getElem a b i hn (by omega), lin_points_getElem a b (i + 1) hn hi, ?_, ?_⟩⟩
  · rw [lin_points_getElem a b 0 hn (by omega)]; simp
  · rw [lin_points_getElem a b (n - 1) hn (by omega), Nat.cast_pred (by omega), grid_last hn]
  · push_cast; ring
  · exact add_lt_add_right (mul_lt_mul_of_pos_right (Nat.cast_lt.mpr (Nat.lt_succ_self i)) (gridStep_pos hab hn)) a

/-- with a single point the grid is `[start]` -/
theorem C16_lin_single (a b : Rat) : Grid.points (.lin a b 1) = [a] := rfl

/-- first node = start, last node = stop, constant ratio (equal spacing on the log scale), strictly increasing -/
theorem C16_log_exact (a b : ℝ) (n : ℕ) (ha : 0 < a) (hab : a < b) (hn : 2 ≤ n) :
    logNode a b n 0 = a ∧ logNode a b n ((n : ℝ) - 1) = b ∧
    (∀ k : ℝ, Real.log (logNode a b n (k + 1)) - Real.log (logNode a b n k) = (Real.log b - Real.log a) / ((n : ℝ) - 1)) ∧
    (∀ k : ℝ, logNode a b n k < logNode a b n (k + 1)) ∧ (∀ k : ℝ, 0 < logNode a b n k) :=
  ⟨logNode_zero b n ha, logNode_last ha hab hn, fun k => by rw [log_logNode, log_logNode]; ring,
    fun k => logNode_strictMono ha hab hn (lt_add_one k), logNode_pos a b n⟩

/-- accepted exactly when the category class is a dataclass with at least one field whose values, in
declaration order, are numerically 0, 1, 2, … -/
theorem C16_discrete_iff (isDataclass : Bool) (vals : List PyVal) :
    validateDiscrete isDataclass vals = true ↔
      (isDataclass = true ∧ vals ≠ [] ∧ (∀ v ∈ vals, v.isNumber = true) ∧
        ∀ p ∈ vals.zipIdx, p.1.eqInt p.2 = true) := by
  simp only [validateDiscrete, Bool.and_eq_true, Bool.not_eq_true', List.isEmpty_eq_false_iff, List.all_eq_true,
    and_assoc, ne_eq, Prod.forall]

/-- numeric equality with the position already implies "is a number": the codes are 0, 1, 2, … -/
theorem C16_discrete_codes (v : PyVal) (i : Int) (h : v.eqInt i = true) : v.isNumber = true := by
  cases v <;> simp_all [PyVal.eqInt, PyVal.isNumber]

-- non-vacuity: Python semantics of the corner cases
example : validateContinuous (.int 1) (.int 1) (.int 3) true = false := by decide +kernel
example : validateContinuous (.float .nan) (.int 1) (.int 3) true = false ∧
    validateContinuous (.float .nan) (.int 1) (.int 3) false = true := by decide +kernel
example : validateContinuous (.int 0) (.float (.fin (1/2))) (.bool true) true = true := by decide +kernel
example : validateLogspace (.int 0) (.int 1) (.int 3) true = false ∧ validateLogspace (.int 1) (.int 2) (.int 3) true = true := by
  decide +kernel
example : validateDiscrete true [.int 0, .float (.fin 1), .bool false] = false ∧
    validateDiscrete true [.bool false, .float (.fin 1), .int 2] = true := by decide +kernel
example : Grid.points (.lin 1 3 5) = [1, 3/2, 2, 5/2, 3] := by decide +kernel

end Lcm
