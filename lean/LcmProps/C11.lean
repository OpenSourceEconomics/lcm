import LcmProofs.AffineSolve
import LcmProofs.Degenerate
import LcmProps.C10
import LcmProofs.FiniteHorizon
import LcmProofs.SolveLaws
import LcmModel.Diag
namespace Lcm

/-! # C11 — the solution obeys the algebraic laws of finite-horizon dynamic programming

The laws are proved for the specification-level Bellman step `bellmanStep` (maximum over the admissible grid
choices of `u + β·continuation`), which is what every entry of `solve` is by R1 (`C01_entry_isMax_*` +
`bellmanStep_isMax` + uniqueness of `IsMaxOver`), and for its two linear ingredients: multilinear
inter/extrapolation (`interp`) and expectations over transition rows that sum to one. The backward induction
over periods is carried out for an abstract finite-horizon programme `DP` (`C11_affine`, `C11_beta_zero_all_periods`,
`C11_stationary`); one step of it is `C11_affine_step`: with `k_t = Σ_{j<T-1-t} β^j` for period `t+1` the step gives
`1 + β·k_t = Σ_{j<T-t} β^j` for period `t` (`C11_geometric`). -/

/-- one backward step of the affine law -/
theorem C11_affine_step {X : Type} (xs : List X) (adm : X → Bool) (u cont : X → Rat) (β a b k : Rat) (ha : 0 < a) :
    bellmanStep xs adm (fun x => a * u x + b) (fun x => a * cont x + b * k) β
      = Ext.affine a (b * (1 + β * k)) (bellmanStep xs adm u cont β) :=
  bellmanStep_affine xs adm u cont β b k ha

/-- the constants accumulate to `b·Σ_{k < remaining periods} β^k` -/
theorem C11_geometric (β : Rat) (n : Nat) :
    geo β 0 = 0 ∧ geo β (n + 1) = 1 + β * geo β n ∧ geo β n = ((List.range n).map fun k => β ^ k).sum :=
  ⟨rfl, rfl, geo_eq_sum β n⟩

/-- the continuation of the transformed model is the transformed continuation: interpolation (incl. linear
extrapolation) commutes with `V ↦ a·V + c` because the weights sum to one … -/
theorem C11_interp_affine (a c : Rat) (t : Tensor Rat) (cs : List Rat) :
    interp (Tensor.affine a c t) cs = a * interp t cs + c := interp_affine a c t cs

/-- … and so does the expectation over a transition row that sums to one -/
theorem C11_expectation_affine (w v : List Rat) (a c : Rat) (hw : w.sum = 1) (hlen : w.length = v.length) :
    ((w.zip v).map fun p => p.1 * (a * p.2 + c)).sum = a * ((w.zip v).map fun p => p.1 * p.2).sum + c := by
  rw [expect_affine_weighted a c hlen, hw, mul_one]

/-- the maximum commutes with positive-affine maps (and −inf stays −inf) -/
theorem C11_max_affine (a b : Rat) (ha : 0 < a) (xs : List Ext) :
    foldMax (xs.map (Ext.affine a b)) = Ext.affine a b (foldMax xs) := foldMax_affine b ha xs

/-- with `β = 0` every period's value is its one-period problem: the continuation is irrelevant -/
theorem C11_beta_zero {X : Type} (xs : List X) (adm : X → Bool) (u cont cont' : X → Rat) :
    bellmanStep xs adm u cont 0 = bellmanStep xs adm u cont' 0 := bellmanStep_beta_zero xs adm u cont cont'

/-- stationarity: if the data of the step (choices, admissibility, utility) do not depend on the period, equal
continuations give equal values - hence by induction from the last period the values `j` periods before the
end are the same for every horizon -/
theorem C11_stationary_step {X : Type} (xs : List X) (adm : X → Bool) (u cont cont' : X → Rat) (β : Rat)
    (h : ∀ x ∈ xs, cont x = cont' x) : bellmanStep xs adm u cont β = bellmanStep xs adm u cont' β :=
  bellmanStep_congr (fun _ => Iff.rfl) fun x hx _ => by rw [h x hx]

/-- a degenerate transition row (point mass at label `l`) makes the expectation the value at `l`: the
stochastic model's continuation is the deterministic model's -/
theorem C11_degenerate_row (v : List Rat) (l : Nat) (hl : l < v.length) :
    (((List.range v.length).map fun k => if k = l then (1 : Rat) else 0).zip v |>.map fun p => p.1 * p.2).sum = v[l] := by
  rw [onehot_zip_sum (oneHot_indicator v.length l hl) (by simp), List.getElem_eq_getD 0]

/-- **the affine law over the whole horizon** (backward induction, any number of periods): if utility is replaced
by `a·utility + b` with `a > 0`, every value `j` periods before the end becomes `a` times the old value plus `b`
times `Σ_{k ≤ j} β^k` (the sum of `β^k` over the remaining periods). `DP` is an arbitrary finite-horizon programme whose
continuation functional commutes with affine maps (interpolation weights and transition rows sum to one). -/
theorem C11_affine {S X : Type} (d : DP S X) (β a b : Rat) (ha : 0 < a) (hne : ∀ j s, d.choices j s ≠ [])
    (hcont : ∀ j (f : S → Rat) (c : Rat) s x, d.cont j (fun s' => a * f s' + c) s x = a * d.cont j f s x + c)
    (j : Nat) (s : S) :
    (d.scale a b).value β j s = Ext.affine a (b * geo β (j + 1)) (d.value β j s) :=
  DP.value_scale d β b ha hne hcont j s

/-- with `β = 0` every period's values equal the one-period problem of that period -/
theorem C11_beta_zero_all_periods {S X : Type} (d : DP S X) (j : Nat) (s : S) :
    d.value 0 j s = bellmanStep (d.choices j s) (fun _ => true) (d.u j s) (fun _ => 0) 0 :=
  DP.value_beta_zero d j s

/-- if no function depends on the period, the values `j` periods before the end are the same for every horizon: two
programmes that agree on the data of their last `j+1` periods agree on the value `j` periods before the end -/
theorem C11_stationary {S X : Type} (d d' : DP S X) (β : Rat) (j : Nat)
    (h : ∀ i ≤ j, d.choices i = d'.choices i ∧ d.u i = d'.u i ∧ d.cont i = d'.cont i) (s : S) :
    d.value β j s = d'.value β j s := DP.value_congr d d' β j h s

-- non-vacuity: the affine law on a two-choice step (u = [1, 3], continuation [2, 0], β = 1/2, a = 2, b = 1, k = 3)
example : bellmanStep [0, 1] (fun _ => true) (fun x => 2 * (if x = 0 then 1 else 3) + 1)
      (fun x => 2 * (if x = 0 then 2 else 0) + 1 * 3) (1/2)
    = Ext.affine 2 (1 * (1 + (1/2) * 3)) (bellmanStep [0, 1] (fun _ => true) (fun x => if x = 0 then (1 : Rat) else 3)
        (fun x => if x = 0 then (2 : Rat) else 0) (1/2)) := by decide +kernel


/-! ## The affine law for the executable `solve` itself

`C11_affine_solve`: take any specification `m`, replace the body `u` of its utility function by `a·u + b` (`a > 0`) and
solve both with the same parameters. Then, `j` periods before the end, **every entry** `v` of the value array becomes
`a·v + b·(1 + β + … + β^j)` (`-inf` stays `-inf`) and the shapes agree - for every layout (filter-restricted or not),
any number of periods, continuation values read by exact lookup / multilinear interpolation and extrapolation, and
expectations over stochastic states. Hypotheses: every row of every transition array sums to one (`RowsSumToOne`), no
function takes the *value* of utility as an argument, and no filter / constraint / transition is named `utility`.
The proof (LcmProofs/AffineSolve.lean) follows the definition of `solve` operation by operation; the abstract
`C11_affine` above states the same law for any finite-horizon programme. -/

theorem C11_affine_solve (m : Model) (P : Params) (a b : Rat) (ha : 0 < a)
    (hno : ∀ f ∈ m.functions, "utility" ∉ f.args)
    (hnames : ∀ fi ∈ functionInfo m, (fi.isConstraint = true ∨ fi.isFilter = true ∨ fi.isNext = true) → fi.name ≠ "utility")
    (hR : RowsSumToOne P) (j : Nat) (hj : j < m.nPeriods) :
    ((solve (withAffineUtility m a b) P true).getD (m.nPeriods - 1 - j) default).shape
        = ((solve m P true).getD (m.nPeriods - 1 - j) default).shape ∧
    ∀ idx, ((solve (withAffineUtility m a b) P true).getD (m.nPeriods - 1 - j) default).get idx
        = Ext.affine a (b * geo P.beta (j + 1)) (((solve m P true).getD (m.nPeriods - 1 - j) default).get idx) :=
  solve_affine (affineUtility_with a b P hno hnames) ha hR hj

/-- the relational form: any two specifications that differ in utility only, by `u' = a·u + b` -/
theorem C11_affine_solve_rel {m m' : Model} {P : Params} {a b : Rat} (h : AffineUtility m m' P a b) (ha : 0 < a)
    (hR : RowsSumToOne P) (j : Nat) (hj : j < m.nPeriods) (idx : List Nat) :
    ((solve m' P true).getD (m.nPeriods - 1 - j) default).get idx
      = Ext.affine a (b * geo P.beta (j + 1)) (((solve m P true).getD (m.nPeriods - 1 - j) default).get idx) :=
  (solve_affine h ha hR hj).2 idx

-- non-vacuity: the hypotheses hold for the consumption example, and the law is visible in the numbers
-- (a = 2, b = 3, beta = 1/2, three periods: constants 3·(1 + 1/2 + 1/4), 3·(1 + 1/2), 3)
#guard Ex.consModel.functions.all fun f => !f.args.contains "utility"
#guard (functionInfo Ex.consModel).all fun fi => !(fi.isConstraint || fi.isFilter || fi.isNext) || fi.name != "utility"
example : RowsSumToOne Ex.consParams := by intro xa hxa; simp [Ex.consParams] at hxa
#guard ((solve (withAffineUtility Ex.consModel 2 3) Ex.consParams).map (·.toFlat))
  == ((solve Ex.consModel Ex.consParams).zipIdx.map fun (V, t) => V.toFlat.map (Ext.affine 2 (3 * geo (1/2) (3 - t))))


/-- if no function takes `_period` as an argument, the array `solve` returns `j` periods before the end is the same
for the horizons `T = m.nPeriods` and `T'` - whole arrays, every layout, continuation by interpolation and expectation
included (`LcmProofs/SolveLaws.lean`: the objective, the filter mask and hence the state-choice space do not
depend on the period index; induction over `j`) -/
theorem C11_stationary_solve (m : Model) (h : NoPeriod m) (P : Params) (T' : Nat) (j : Nat)
    (hj : j < m.nPeriods) (hj' : j < T') :
    (solve (withHorizon m T') P true).getD (T' - 1 - j) default = (solve m P true).getD (m.nPeriods - 1 - j) default :=
  solve_getD_rel (bw_horizon h P T') hj hj'

-- non-vacuity: the consumption example reads no period; horizon 5 against horizon 3, last three periods
#guard Ex.consModel.functions.all fun f => !f.args.contains "_period"
#guard (((solve (withHorizon Ex.consModel 5) Ex.consParams).drop 2).map (·.toFlat))
  == ((solve Ex.consModel Ex.consParams).map (·.toFlat))


/-- with `beta = 0` the array of every period is the array of the one-period problem of that period (`solvePeriod`
without continuation), provided the continuation value is *defined* wherever the static objective is
(`ContinuationDefined`: transitions stay inside the stored state space and read no `-inf` entry - the supported class;
with `beta = 0` the number itself is irrelevant) -/
theorem C11_beta_zero_solve (m : Model) (P : Params) (hβ : P.beta = 0) (t : Nat) (ht : t < m.nPeriods)
    (hdef : ContinuationDefined m P t) :
    (solve m P true).getD t default = solvePeriod m P (groups m) t (mkSpace m P (groups m) t) none :=
  solve_beta_zero hβ ht hdef

-- non-vacuity: the consumption example with beta = 0; every period equals its one-period problem
def Ex.consParams0 : Params := { Ex.consParams with beta := 0 }
#guard (List.range 3).all fun t =>
  (((solve Ex.consModel Ex.consParams0).getD t default).toFlat
    == (solvePeriod Ex.consModel Ex.consParams0 (groups Ex.consModel) t (mkSpace Ex.consModel Ex.consParams0 (groups Ex.consModel) t) none).toFlat)
#guard solveDiag Ex.consModel Ex.consParams0 == [0, 0, 0]   -- no feasible state-choice pair has an undefined objective

/-- **the objective of one state-choice combination**: with a one-hot row for the stochastic state `x` (at the label the
deterministic transition of `m'` returns) the expectation over the product of label grids equals the value at the single
node - provided the continuation is defined at every node (`NodesDefined`: the supported class; on a `-inf` entry the
implementation computes `0 * -inf = nan` where the deterministic specification is fine) -/
theorem C11_degenerate_objective {m m' : Model} {P : Params} {x : Name} (h : DegenerateTo m m' P x) (g : Groups) (t : Nat)
    (V : Tensor Ext) (feas : List (List (Name × Rat))) (hdef : NodesDefined m P g t V feas) (env0 : Env) :
    uAndF m' P g t (some (V, feas)) env0 = uAndF m P g t (some (V, feas)) env0 :=
  h.uAndF (fun _ _ hn => by cases hn; exact hdef) env0

/-- **C11, degenerate stochastic state = deterministic transition, every period of the executable `solve`** -/
theorem C11_degenerate_solve {m m' : Model} {P : Params} {x : Name} (h : DegenerateTo m m' P x)
    (hdef : ∀ t, t + 1 < m.nPeriods →
      NodesDefined m P (groups m) t ((solve m P true).getD (t + 1) default) (mkSpace m P (groups m) (t + 1)).feas)
    (t : Nat) (ht : t < m.nPeriods) :
    (solve m' P true).getD t default = (solve m P true).getD t default :=
  solve_degenerate h hdef ht

/-- with `K` defined at every node, the weighted sum over the nodes collapses to the nodes that carry the label of the one -/
theorem C11_onehot_expectation (x : Name) (row : List Rat) (ℓ : Nat) (hoh : OneHot row ℓ) (W' : List (Name × List Rat))
    (K : List (Name × Rat) → Option Rat) (hK : ∀ p ∈ nodesOf ((x, row) :: W'), (K p.1).isSome = true) :
    seqSum ((nodesOf ((x, row) :: W')).map (gK K)) = seqSum ((nodesOf W').map (gK fun a => K ((x, (ℓ : Rat)) :: a))) :=
  onehot_nodes_sum hoh hK

namespace Ex
/-- `stochModel` with degenerate rows for `h`: from `h = 0` to label 1, from `h = 1` to label 1 -/
def degParams : Params :=
  { stochParams with shocks := stochParams.shocks.map fun (xs : Name × Tensor Rat) =>
      if xs.1 == "h" then ("h", { shape := [2, 2], get := fun idx => ([0, 1, 0, 1] : List Rat).getD (ravel [2, 2] idx) 0 }) else xs }
/-- the deterministic counterpart: `next_h = 1` -/
def detModel : Model :=
  { stochModel with functions := stochModel.functions.map fun f =>
      if f.name == "next_h" then { f with body := .num 1, stochastic := false } else f }
end Ex

-- a test of the statement on one pair of specifications (the semantic hypotheses `DegenerateTo` / `NodesDefined` are
-- evaluated at the grid environments below, not proved for all environments)
#guard ((solve Ex.detModel Ex.degParams).map fun V => (V.shape, V.toFlat))
  == ((solve Ex.stochModel Ex.degParams).map fun V => (V.shape, V.toFlat))
#guard ((solve Ex.stochModel Ex.degParams).map fun V => (V.shape, V.toFlat))
  != ((solve Ex.stochModel Ex.stochParams).map fun V => (V.shape, V.toFlat))
#guard (assignments [("h", [0, 1]), ("p", [0, 1, 2]), ("d", [0, 1])]).all fun a =>
  let env := toEnv a ++ periodEnv 0
  match detOf Ex.stochModel Ex.degParams env, wrowsOf Ex.stochModel Ex.degParams env,
        detOf Ex.detModel Ex.degParams env, wrowsOf Ex.detModel Ex.degParams env with
  | some d, some W, some d', some W' =>
      d == [] && (W.map (·.1)) == ["h", "p"] && ((W.find? (·.1 == "h")).map (·.2)) == some [0, 1]
        && (d'.map fun p => (p.1, p.2.toRat)) == [("h", 1)] && (W'.map (·.1)) == ["p"]
        && (W'.find? (·.1 == "p")).map (·.2) == (W.find? (·.1 == "p")).map (·.2)
  | _, _, _, _ => false
example : OneHot [0, 1] 1 := oneHot_indicator 2 1 (by decide)

end Lcm
