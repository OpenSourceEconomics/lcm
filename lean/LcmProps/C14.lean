import LcmModel.FuncRep
import LcmProofs.InterpBounds
namespace Lcm

/-! # C14 — pre-computed values on a grid are represented as a faithful function

Model: `functionRepresentation` (`LcmModel/FuncRep.lean`) = the DAG built by `get_function_representation`:
labels → positions (identity), indexer lookup for restricted states, positional lookup on the leading axes,
coordinate finders, `map_coordinates` (`interp`) along the trailing axes in the order of `axis_names`;
`_fail_if_interpolation_axes_are_not_last`. Log grids enter the exact model as tabulated nodes (`Grid.tab`,
coordinate by search); `C15_log_*` relate the code's formula to the cell found by the search. -/

/-- interpolation axes not last ⇒ ValueError when the function is built -/
theorem C14_axes_guard (si : SpaceInfo) (pfx : String) (arrays : Name → Option (Tensor Int)) (V : Tensor Rat)
    (env : Name → Option Rat) (h : interpolationAxesLast si = false) :
    functionRepresentation si pfx arrays V env = .error .valueError := by
  unfold functionRepresentation
  simp only [h, Bool.not_false, if_true]
  rfl

/-- without continuous axes the function is the exact lookup of the stored entry selected by the labels -/
theorem C14_discrete_exact (V : Tensor Rat) (positions : List Nat) :
    interp { shape := V.shape.drop positions.length, get := fun idx => V.get (positions ++ idx) } []
      = V.get positions := by
  simp [interp]

/-- stored values are reproduced at grid nodes: after the discrete selection, integer coordinates (= the
coordinates of grid nodes, `C15_lin_coord_node`) return the stored entry, for any number of continuous axes -/
theorem C14_nodes (V : Tensor Rat) (positions idx : List Nat)
    (hb : InBounds (V.shape.drop positions.length) idx) (h2 : ∀ n ∈ V.shape.drop positions.length, 2 ≤ n) :
    interp { shape := V.shape.drop positions.length, get := fun i => V.get (positions ++ i) }
      (idx.map fun (i : Nat) => (i : Rat)) = V.get (positions ++ idx) :=
  interp_nodes _ hb h2

/-- linear in each continuous variable between neighbouring nodes: for a fixed cell the value is affine in
the coordinate, and on a linear grid the coordinate is affine in the variable -/
theorem C14_cellwise_linear (t : Tensor Rat) (a b : Rat) (n : Nat) (v : Rat) (cs : List Rat) :
    let c := coordOf (.lin a b n) v
    let lo := lowerIdx' c (t.shape.headD 0)
    interp t (c :: cs) = interp (t.slice lo) cs
      + ((v - a) / ((b - a) / ((n : Rat) - 1)) - (lo : Rat)) * (interp (t.slice (lo + 1)) cs - interp (t.slice lo) cs) :=
  interp_affine_in_coord t _ cs

/-- outside a linear grid the outermost segment is continued linearly: beyond the last node the cell is the
last cell, before the first node the first cell (so `C14_cellwise_linear` applies with that cell) -/
theorem C14_extrapolation (a b : Rat) (n : Nat) (hab : a < b) (hn : 2 ≤ n) (v : Rat) :
    (b ≤ v → lowerIdx' (coordOf (.lin a b n) v) n = n - 2) ∧
    (v ≤ a → lowerIdx' (coordOf (.lin a b n) v) n = 0) := by
  have hs := gridStep_pos hab hn
  obtain ⟨hup, hlo⟩ := lowerIdx'_boundary (coordOf (.lin a b n) v) hn
  -- the coordinate of `v` is beyond position `n - 1` (resp. before position `0`) when `v` is beyond the node there
  exact ⟨fun hv => hup ((le_gridCoord_iff hs).mpr ((grid_last hn).trans_le hv)),
    fun hv => hlo (div_nonpos_of_nonpos_of_nonneg (sub_nonpos.mpr hv) hs.le)⟩

/-- no overshoot inside the grid: when every continuous variable lies between the first and the last node of its axis
(coordinate in `[0, size - 1]`) and the stored values lie in `[L, U]`, so does the value of the represented function - for
any number of continuous axes. (Outside the grid the outermost segment is continued, `C14_extrapolation`, and the bound
does not hold.) -/
theorem C14_no_overshoot_inside_grid (t : Tensor Rat) (cs : List Rat) (L U : Rat)
    (hlen : cs.length = t.shape.length) (h2 : ∀ n ∈ t.shape, 2 ≤ n)
    (hin : ∀ p ∈ cs.zip t.shape, 0 ≤ p.1 ∧ p.1 ≤ (p.2 : Rat) - 1)
    (hb : ∀ idx, InBounds t.shape idx → L ≤ t.get idx ∧ t.get idx ≤ U) :
    L ≤ interp t cs ∧ interp t cs ≤ U :=
  ⟨interp_ge hlen h2 hin fun idx hi => (hb idx hi).1, interp_le hlen h2 hin fun idx hi => (hb idx hi).2⟩

/-- the premises are satisfiable (a 2 x 2 array with entries in [1, 4], evaluated inside), and the bound fails outside the grid -/
example : let t : Tensor Rat := { shape := [2, 2], get := fun idx => 1 + 2 * (idx.headD 0 : Nat) + ((idx.tail.headD 0 : Nat) : Rat) }
    (1 ≤ interp t [1/2, 1/3] ∧ interp t [1/2, 1/3] ≤ 4) ∧ ¬ (interp t [2, 0] ≤ 4) := by
  decide +kernel

/-- the restricted states enter only through the indexer: the position on the leading axis is the entry of
the indexer array at the labels (a negative entry = infeasible combination is outside the model) -/
theorem C14_label_positions (q : Rat) (k : Nat) (h : labelPos q = some k) : q = (k : Rat) := by
  unfold labelPos at h
  split at h
  · next hq =>
    obtain rfl := Option.some.inj h
    exact (Rat.coe_int_num_of_den_eq_one hq.1).symm.trans (by exact_mod_cast (Int.toNat_of_nonneg hq.2).symm)
  · cases h

-- non-vacuity: one restricted state with feasibility mask [0, −1, 1], one continuous state on {0, 1, 2}
def exSpaceInfo : SpaceInfo :=
  { axisNames := ["state_index", "w"], lookup := ["s"], interp := [("w", .lin 0 2 3)],
    indexers := [{ axisNames := ["s"], name := "state_indexer", outName := "state_index" }] }
def exIndexer : Tensor Int := { shape := [3], get := fun idx => [0, -1, 1].getD (idx.headD 0) (-1) }
def exV : Tensor Rat := { shape := [2, 3], get := fun idx => [1, 2, 4, 10, 20, 40].getD (ravel [2, 3] idx) 0 }
def exEval (s w : Rat) : Option Rat :=
  (functionRepresentation exSpaceInfo "next_" (fun n => if n == "state_indexer" then some exIndexer else none) exV
    (fun n => if n == "next_s" then some s else if n == "next_w" then some w else none)).toOption
#guard exEval 2 1 = some 20 ∧ exEval 2 (3/2) = some 30 ∧ exEval 0 3 = some 6 ∧ exEval 1 0 = none

end Lcm
