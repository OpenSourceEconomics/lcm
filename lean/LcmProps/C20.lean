import LcmProofs.Lse
namespace Lcm
open Real Finset

/-! # C20 — extreme-value aggregation of choice values is an exact, stable log-sum-exp

Model over ℝ (`LcmProofs/Lse.lean`): `lse s v = s·log Σ exp(v_i/s)` is the mathematical aggregation;
`lseStable s v m = m + s·log Σ exp((v_i − m)/s)` is what `_segment_logsumexp` / `jax.scipy.special.logsumexp`
compute after the division by the scale (max `m`, subtract, `exp`, sum, `log`, add). `v` ranges over the
choices of one state - whether they are laid out along array axes or as the rows of one segment is invisible
at this level (the choices of a state are an index set `Fin n`). The driver runs the same definitions over
`Float` (`emaxExtremeValueF`); `Float` is opaque to the kernel, IEEE overflow is outside the model. -/

variable {n : ℕ}

/-- the stable form equals `s·log Σ exp(v/s)` (for any shift `m`, in particular the maximum) -/
theorem C20_eq_lse (s : ℝ) (hs : 0 < s) (v : Fin n → ℝ) (m : ℝ) (hn : 0 < n) :
    lseStable s v m = lse s v := lseStable_eq_lse hs v m hn

/-- axes layout = segment layout: the result depends on the choices of the state only as a family, not on
their arrangement (any re-indexing `e` of the choices gives the same value) -/
theorem C20_layout_irrelevant (s : ℝ) (v : Fin n → ℝ) (e : Fin n ≃ Fin n) :
    lse s (v ∘ e) = lse s v := by
  unfold lse
  congr 2
  exact Equiv.sum_comp e (fun i => exp (v i / s))

/-- `max ≤ result ≤ max + s·log(number of choices)` -/
theorem C20_bounds (s : ℝ) (hs : 0 < s) (v : Fin n → ℝ) (m : ℝ) (hn : 0 < n)
    (hmax : ∀ i, v i ≤ m) (hatt : ∃ i, v i = m) :
    m ≤ lse s v ∧ lse s v ≤ m + s * log n := lse_bounds hs hn hmax hatt

/-- adding `c` to all values shifts the result by `c` -/
theorem C20_shift (s : ℝ) (hs : 0 < s) (v : Fin n → ℝ) (c : ℝ) (hn : 0 < n) :
    lse s (fun i => v i + c) = lse s v + c := lse_shift hs v c hn

open Filter Topology in
/-- the result approaches the maximum as the scale goes to zero -/
theorem C20_limit (v : Fin n → ℝ) (m : ℝ) (hn : 0 < n) (hmax : ∀ i, v i ≤ m) (hatt : ∃ i, v i = m) :
    Tendsto (fun s => lse s v) (𝓝[>] 0) (𝓝 m) := lse_tendsto_max hn hmax hatt

/-- why the stable form cannot overflow (partial: the arithmetic reason, not IEEE semantics): with `m` the
maximum every exponent is ≤ 0, every term lies in (0, 1] and the sum in [1, n] -/
theorem C20_no_overflow_partial (s : ℝ) (hs : 0 < s) (v : Fin n → ℝ) (m : ℝ)
    (hmax : ∀ i, v i ≤ m) (hatt : ∃ i, v i = m) :
    (∀ i, (v i - m) / s ≤ 0 ∧ 0 < exp ((v i - m) / s) ∧ exp ((v i - m) / s) ≤ 1) ∧
      1 ≤ ∑ i : Fin n, exp ((v i - m) / s) ∧ ∑ i : Fin n, exp ((v i - m) / s) ≤ n :=
  shifted_sum_mem hs hmax hatt

-- non-vacuity: two choices with values 1 and 3 at scale 2
example : ∃ v : Fin 2 → ℝ, (∀ i, v i ≤ 3) ∧ ∃ i, v i = 3 := ⟨![1, 3], by intro i; fin_cases i <;> simp, 1, by simp⟩

end Lcm
