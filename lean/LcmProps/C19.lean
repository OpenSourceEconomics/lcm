import LcmProofs.Dispatch
namespace Lcm

/-! # C19 — vectorisation dispatchers equal nested loops over named arguments

Model: a function is a map `List (Tensor α) → Tensor α` over its positional argument list; `vmapAt f p`
(`jax.vmap` with `in_axes[p] = 0`, `None` elsewhere) maps over the leading axis of argument `p` and puts the
mapped axis first; `baseProductmap` iterates `vmapAt` over `reversed(positions)` exactly as `_base_productmap`
does; `productmapModel`/`vmap1dModel`/`spacemapModel` add the name → position lookup. The wrappers are
modelled over `(args, kwargs)` with Python's own binding rules (`pyBind`). -/

variable {α : Type} [Inhabited α]

/-- **entry `(i₁,…,i_k) ++ rest` of the product map is the function applied to the `i_j`-th elements of the
mapped arguments, all other arguments passed through, axes in the order in which the names were listed** -
whatever the positions of the names in the signature -/
theorem C19_productmap (params : List Name) (f : List (Tensor α) → Tensor α) (vars : List Name)
    (is : List Nat) (hlen : is.length = vars.length) (args : List (Tensor α)) (rest : List Nat) :
    (productmapModel params f vars args).get (is ++ rest)
      = (f (setSlices args (vars.map (paramPos params)) is)).get rest :=
  baseProductmap_get f (vars.map (paramPos params)) is (by rwa [List.length_map]) args rest

/-- mapping over several arguments jointly pairs their elements: entry `i` uses the `i`-th element of
*every* listed argument -/
theorem C19_vmap1d (params : List Name) (f : List (Tensor α) → Tensor α) (vars : List Name)
    (args : List (Tensor α)) (i : Nat) (rest : List Nat) :
    (vmap1dModel params f vars args).get (i :: rest)
      = (f ((vars.map (paramPos params)).foldl (fun acc p => acc.set p ((args[p]!).slice i)) args)).get rest := rfl

/-- the combined space map: without jointly mapped names it is the product map … -/
theorem C19_spacemap_dense_only (params : List Name) (f : List (Tensor α) → Tensor α) (dense : List Name)
    (b : Bool) : spacemapModel params f dense [] b = productmapModel params f dense := rfl

/-- … with `put_dense_first = false` the joint axis comes first, then the product axes in listed order … -/
theorem C19_spacemap_sparse_first (params : List Name) (f : List (Tensor α) → Tensor α)
    (dense sparse : List Name) (hs : sparse ≠ []) (args : List (Tensor α)) (i : Nat) (is : List Nat)
    (hlen : is.length = dense.length) (rest : List Nat) :
    (spacemapModel params f dense sparse false args).get (i :: (is ++ rest))
      = (f (setSlices ((sparse.map (paramPos params)).foldl (fun acc p => acc.set p ((args[p]!).slice i)) args)
            (dense.map (paramPos params)) is)).get rest := by
  rw [spacemapModel_sparse params f dense hs false]
  exact C19_productmap params f dense is hlen _ rest

/-- … and with `put_dense_first = true` the product axes come first, the joint axis last -/
theorem C19_spacemap_dense_first (params : List Name) (f : List (Tensor α) → Tensor α)
    (dense sparse : List Name) (hs : sparse ≠ []) (args : List (Tensor α)) (i : Nat) (is : List Nat)
    (hlen : is.length = dense.length) (rest : List Nat) :
    (spacemapModel params f dense sparse true args).get (is ++ (i :: rest))
      = (f ((sparse.map (paramPos params)).foldl (fun acc p => acc.set p (((setSlices args (dense.map (paramPos params)) is)[p]!).slice i))
            (setSlices args (dense.map (paramPos params)) is))).get rest := by
  rw [spacemapModel_sparse params f dense hs true, if_pos rfl,
    C19_productmap params _ dense is hlen args (i :: rest)]
  rfl

/-- `allow_only_kwargs` rejects positional arguments -/
theorem C19_only_kwargs_rejects_positional (params : List (String × PKind)) (a : Int) (args : List Int)
    (kwargs : List (String × Int)) :
    allowOnlyKwargs params (a :: args) kwargs = .error .valueError :=
  allowOnlyKwargs_reject (Or.inl rfl)

/-- `allow_only_kwargs` rejects an unexpected keyword -/
theorem C19_only_kwargs_rejects_unexpected (params : List (String × PKind)) (kwargs : List (String × Int))
    (k : String) (v : Int) (hk : (k, v) ∈ kwargs) (hnot : (params.map (·.1)).contains k = false) :
    allowOnlyKwargs params [] kwargs = .error .valueError :=
  allowOnlyKwargs_reject (Or.inr (Or.inl (List.any_eq_true.mpr ⟨(k, v), hk, by rw [hnot]; rfl⟩)))

/-- `allow_only_kwargs` rejects a missing argument -/
theorem C19_only_kwargs_rejects_missing (params : List (String × PKind)) (kwargs : List (String × Int))
    (n : String) (hn : n ∈ params.map (·.1)) (hmiss : ∀ kv ∈ kwargs, (kv.1 == n) = false)
    (hextra : (kwargs.any fun kv => !(params.map (·.1)).contains kv.1) = false) :
    allowOnlyKwargs params [] kwargs = .error .valueError := by
  have hnone : kwargs.any (·.1 == n) = false := List.any_eq_false.mpr fun kv hkv => by simp [hmiss kv hkv]
  exact allowOnlyKwargs_reject (Or.inr (Or.inr (List.any_eq_true.mpr ⟨n, hn, by rw [hnone]; rfl⟩)))

/-- `allow_args` (with the F4 repair) rejects a call whose keywords are not exactly the parameters that are
not bound positionally - in particular a keyword that duplicates a positionally bound parameter -/
theorem C19_allow_args_rejects_wrong_keywords (params : List (String × PKind)) (args : List Int)
    (kwargs : List (String × Int))
    (hbad : (kwargs.all (fun kv => ((params.map (·.1)).drop args.length).contains kv.1) &&
      ((params.map (·.1)).drop args.length).all fun n => kwargs.any (·.1 == n)) = false) :
    allowArgs params args kwargs true = .error .valueError :=
  allowArgs_reject (Or.inr ⟨rfl, hbad⟩)

/-- both wrappers reject a wrong number of arguments -/
theorem C19_allow_args_rejects_wrong_count (params : List (String × PKind)) (args : List Int)
    (kwargs : List (String × Int)) (rep : Bool) (h : args.length + kwargs.length ≠ params.length) :
    allowArgs params args kwargs rep = .error .valueError :=
  allowArgs_reject (Or.inl (by rwa [List.length_map, bne_iff_ne]))

-- non-vacuity: binding by name whatever the keyword order; the F4 witness; keyword-only parameters
def okVal (r : Except CallErr (List (String × Int))) : Option (List (String × Int)) := r.toOption
def isValueError (r : Except CallErr (List (String × Int))) : Bool :=
  match r with | .error .valueError => true | _ => false
#guard okVal (allowOnlyKwargs [("a", .posOrKw), ("b", .posOrKw), ("c", .kwOnly)] [] [("c", 3), ("a", 1), ("b", 2)])
    = some [("a", 1), ("b", 2), ("c", 3)]
#guard isValueError (allowArgs [("a", .posOrKw), ("b", .posOrKw), ("c", .posOrKw)] [1, 2] [("a", 3)] true)
#guard okVal (allowArgs [("a", .posOrKw), ("b", .posOrKw), ("c", .posOrKw)] [1, 2] [("a", 3)] false)
    = some [("a", 1), ("b", 2), ("c", 3)]
#guard okVal (allowArgs [("a", .posOnly), ("b", .posOrKw), ("c", .kwOnly)] [7] [("c", 9), ("b", 8)] true)
    = some [("a", 7), ("b", 8), ("c", 9)]

end Lcm
