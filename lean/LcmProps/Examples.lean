import LcmModel.Sim
namespace Lcm.Ex

/-! Concrete specifications used by the non-vacuity examples of the property files. -/

open Lcm

/-- the F1 witness (DESIGN §7): 2 periods, state `s ∈ {0,1,2}` excluded at `s = 0` in period 1 by a
period-dependent filter, choice `d ∈ {0,1}`, `utility = 10 s + d`, `next_s = max(s, 1)`, `β = 1` -/
def f1Model : Model :=
  { nPeriods := 2
    states := [("s", .disc 3)]
    choices := [("d", .disc 2)]
    functions := [
      { name := "utility", args := ["s", "d"], body := .add (.mul (.num 10) (.var "s")) (.var "d") },
      { name := "next_s", args := ["s"], body := .max (.var "s") (.num 1) },
      { name := "p_filter", args := ["s", "_period"],
        body := .or (.not (.eq (.var "s") (.num 0))) (.not (.eq (.var "_period") (.num 1))) } ] }

def f1Params : Params := { beta := 1, funcs := [], shocks := [] }

/-- a model without filters: one continuous state `w` on {0,1,2}, continuous choice `c` on {0,1,2},
discrete choice `d ∈ {0,1}`, constraint `c ≤ w`, `utility = 2c - c² /… ` (dyadic), `next_w = w - c` -/
def consModel : Model :=
  { nPeriods := 3
    states := [("w", .lin 0 2 3)]
    choices := [("c", .lin 0 2 3), ("d", .disc 2)]
    functions := [
      { name := "utility", args := ["c", "d", "kappa"],
        body := .sub (.add (.mul (.num 3) (.var "c")) (.mul (.var "kappa") (.var "d"))) (.mul (.var "c") (.var "c")) },
      { name := "next_w", args := ["w", "c"], body := .sub (.var "w") (.var "c") },
      { name := "budget_constraint", args := ["c", "w"], body := .le (.var "c") (.var "w") } ] }

def consParams : Params := { beta := 1/2, funcs := [("utility", [("kappa", 1/4)])], shocks := [] }

def flat (V : List (Tensor Ext)) : List (List Nat × List Ext) := V.map fun t => (t.shape, t.toFlat)

-- pinned numbers (compiled evaluation; a regression guard, not a theorem)
#guard flat (solve f1Model f1Params true) = [([3], [.fin 12, .fin 22, .fin 42]), ([2], [.fin 11, .fin 21])]
#guard (solve consModel consParams).length = 3
#guard ((solve consModel consParams).getD 2 default).toFlat = [.fin (1/4), .fin (9/4), .fin (9/4)]

end Lcm.Ex
