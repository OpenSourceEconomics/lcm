import LcmProofs.SimPanel
import LcmProofs.SpecRefine
import LcmProps.Examples
import LcmProofs.InfeasibleSim
namespace Lcm

/-! # C02 — simulated decisions are feasible maximisers of the agent's objective

Model: `Lcm.simulate` / `agentDecision` / `simChoice` (`LcmModel/Sim.lean`, `SimStep.lean`): the arg-max
chain of `simulate.py` — data state-choice space (agents × restricted choices, filter, boolean-mask
selection), masked arg-max over the flattened product of the continuous-choice grids, arg-max over the
unrestricted discrete choices, segment arg-max over the rows of the agent, re-indexing of the dense and the
continuous arg-max by the selected row (repair F2), index → grid value. The objective of period `t` is
`uAndF` built from *the value array in use* for period `t+1`. -/

/-- the records of period `t` of a simulation are the decisions of the agents at their period-`t` states -/
theorem C02_records_are_decisions (m : Model) (P : Params) (V : List (Tensor Ext))
    (init : List (List (Name × Rat))) (draws : Draws) (t i : Nat) (ht : t < m.nPeriods) (hi : i < init.length) :
    ((simulate m P V init draws true).getD t []).getD i default
      = agentDecision m P (groups m) t (simNext m P V t) (statesAt m P V init draws t) i :=
  simulate_record P V draws ht hi

/-- **R2 per agent and period**: for any mix of restricted / unrestricted discrete choices and any number
and sizes of continuous-choice grids, (1) the reported value is the maximum of the agent's own objective
over all grid choices that pass the filter and the constraints, (2) if that maximum is not −inf the reported
choices are grid values, pass the filter and the constraints, and attain it. -/
theorem C02_decision_is_feasible_maximiser (m : Model) (P : Params) (g : Groups) (t : Nat)
    (next : Option (Tensor Ext × List (List (Name × Rat)))) (states : List (List (Name × Rat)))
    (i : Nat) (hi : i < states.length) :
    let st := states.getD i []
    let out := simChoice states.length (assignments g.sC) (assignments g.dC) (assignments g.cC)
      (fun k c => agentFilt m P g t (states.getD k []) c)
      (fun k c e y => valueOf (agentObj m P g t next (states.getD k []) c e y))
      (fun k c e y => feasibleOf (agentObj m P g t next (states.getD k []) c e y)) i
    (agentDecision m P g t next states i).value = out.2.2.2 ∧
    IsMaxOver
      (fun x : List (Name × Rat) × (List (Name × Rat) × List (Name × Rat)) =>
        (x.1 ∈ assignments g.sC ∧ agentFilt m P g t st x.1 = true) ∧
          (x.2.1 ∈ assignments g.dC ∧ (x.2.2 ∈ assignments g.cC ∧
            feasibleOf (agentObj m P g t next st x.1 x.2.1 x.2.2) = true)))
      (fun x => valueOf (agentObj m P g t next st x.1 x.2.1 x.2.2))
      (agentDecision m P g t next states i).value ∧
    ((agentDecision m P g t next states i).value ≠ .ninf →
      out.1 ∈ assignments g.sC ∧ agentFilt m P g t st out.1 = true ∧
      out.2.1 ∈ assignments g.dC ∧ out.2.2.1 ∈ assignments g.cC ∧
      feasibleOf (agentObj m P g t next st out.1 out.2.1 out.2.2.1) = true ∧
      (agentDecision m P g t next states i).value
        = .fin (valueOf (agentObj m P g t next st out.1 out.2.1 out.2.2.1))) :=
  agentDecision_spec m P g t next states i hi

/-- the reported choices are exactly the three components selected by the chain (restricted, unrestricted
discrete, continuous), so "the reported choice attains the value" is the statement above -/
theorem C02_reported_choices (m : Model) (P : Params) (g : Groups) (t : Nat)
    (next : Option (Tensor Ext × List (List (Name × Rat)))) (states : List (List (Name × Rat))) (i : Nat) :
    let out := simChoice states.length (assignments g.sC) (assignments g.dC) (assignments g.cC)
      (fun k c => agentFilt m P g t (states.getD k []) c)
      (fun k c e y => valueOf (agentObj m P g t next (states.getD k []) c e y))
      (fun k c e y => feasibleOf (agentObj m P g t next (states.getD k []) c e y)) i
    (agentDecision m P g t next states i).choices = out.2.1 ++ out.1 ++ out.2.2.1 := rfl

/-- the reported value is *the* maximum: any value satisfying the specification equals it -/
theorem C02_value_is_the_maximum {X : Type} {Pr : X → Prop} {f : X → Rat} {v w : Ext}
    (hv : IsMaxOver Pr f v) (hw : IsMaxOver Pr f w) : v = w := hv.unique hw

/-- the continuation of period `t` is built from the value array in use for period `t+1`; none in the last
period -/
theorem C02_uses_next_period_array (m : Model) (P : Params) (V : List (Tensor Ext)) (t : Nat) :
    simNext m P V t = if t + 1 < m.nPeriods then
      some (V.getD (t + 1) default, (mkSpace m P (groups m) (t + 1)).feas) else none := rfl

-- non-vacuity / pinned numbers: the F1 witness simulated from s = 1 and s = 2
#guard ((simulate Ex.f1Model Ex.f1Params (solve Ex.f1Model Ex.f1Params) [[("s", 1)], [("s", 2)]] (fun _ _ _ _ => 0)).map
  fun recs => recs.map fun r => (r.value, r.choices, r.states))
  == [[(.fin 22, [("d", 1)], [("s", 1)]), (.fin 42, [("d", 1)], [("s", 2)])],
     [(.fin 11, [("d", 1)], [("s", 1)]), (.fin 21, [("d", 1)], [("s", 2)])]]


/-- **the reported value at the specification level**: the value `simulate` reports for an agent - on or off the
grid - is the maximum, found by plain enumeration of *all declared choices in declaration order* (no groups, no
segments, no arg-max chain), of the objective over the combinations that pass every filter and every constraint
(`specAgent.best`, the quantity the harness' oracle `sim_spec` returns). Hypotheses: names pairwise distinct; and for
models without a filter-restricted choice - where `simulate` evaluates no filter - the agent's state passes the
filters (the implementation reports a choice for an agent in an excluded state as well; the property speaks about
feasible choices "at the agent's current state", which such an agent does not have). `chRep` is the reported choice
handed to `specAgent`; `best` does not read it. -/
theorem C02_value_is_plain_enumeration_max (m : Model) (P : Params) (t : Nat)
    (next : Option (Tensor Ext × List (List (Name × Rat)))) (states : List (List (Name × Rat)))
    (i : Nat) (hi : i < states.length)
    (hnd : ((m.states ++ m.choices).map (·.1)).Nodup)
    (hst : ((states.getD i []).map (·.1) ++ m.choices.map (·.1)).Nodup)
    (hfs : (groups m).sC.isEmpty = true →
      allTrue m P (toEnv (states.getD i []) ++ periodEnv t) (filterNames m) = some true)
    (chRep : List (Name × Rat)) :
    (specAgent m P (groups m) t next (states.getD i []) chRep).best
      = (agentDecision m P (groups m) t next states i).value :=
  specAgent_best_eq_value m P t next states i hi hnd hst hfs chRep

/-- **the reported choices at the specification level**: when the value is not `-inf`, the reported choices are - as a
set of (name, value) pairs - one of the grid combinations of *all* declared choices, pass every filter and every
constraint (`specQ … = some (v, true)`), and their objective `v` is the reported value, which is the maximum -/
theorem C02_reported_choices_are_an_admissible_maximiser (m : Model) (P : Params) (t : Nat)
    (next : Option (Tensor Ext × List (List (Name × Rat)))) (states : List (List (Name × Rat)))
    (i : Nat) (hi : i < states.length)
    (hnd : ((m.states ++ m.choices).map (·.1)).Nodup)
    (hst : ((states.getD i []).map (·.1) ++ m.choices.map (·.1)).Nodup)
    (hfs : (groups m).sC.isEmpty = true →
      allTrue m P (toEnv (states.getD i []) ++ periodEnv t) (filterNames m) = some true)
    (hfin : (agentDecision m P (groups m) t next states i).value ≠ .ninf) :
    ∃ ch ∈ allChoices m, ch.Perm (agentDecision m P (groups m) t next states i).choices ∧
      ∃ v : Rat, specQ m P (groups m) t next (states.getD i []) ch = some (v, true) ∧
        (agentDecision m P (groups m) t next states i).value = .fin v ∧
        (specAgent m P (groups m) t next (states.getD i []) ch).best = .fin v := by
  obtain ⟨c, hc, e, he, y, hy, q, hrep, hf, hobj, hval⟩ := agentDecision_attains hi hfin
  obtain ⟨ch, hch, hperm⟩ := allChoices_of_groupwise hnd hc he hy
  have hsel := selAdm_specQ_groupwise next hst hc he hy hch hperm hfs
  rw [hobj, if_pos ⟨hf, rfl⟩] at hsel
  refine ⟨ch, hch, ?_, q, selAdm_eq_some hsel, hval, ?_⟩
  · rw [hrep]
    exact hperm.trans (List.Perm.append_right _ List.perm_append_comm)
  · rw [specAgent_best_eq_value m P t next states i hi hnd hst hfs ch, hval]

-- the hypotheses are satisfiable and the two sides are the pinned number: F1 witness, agent in state s = 2, period 0
example : ((Ex.f1Model.states ++ Ex.f1Model.choices).map (·.1)).Nodup := by decide
#guard (groups Ex.f1Model).sC.isEmpty
#guard allTrue Ex.f1Model Ex.f1Params (toEnv [("s", 2)] ++ periodEnv 0) (filterNames Ex.f1Model) == some true
#guard (specAgent Ex.f1Model Ex.f1Params (groups Ex.f1Model) 0 (simNext Ex.f1Model Ex.f1Params (solve Ex.f1Model Ex.f1Params) 0)
    [("s", 2)] [("d", 1)]).best == .fin 42
#guard (specAgent Ex.consModel Ex.consParams (groups Ex.consModel) 0
    (simNext Ex.consModel Ex.consParams (solve Ex.consModel Ex.consParams) 0) [("w", 3/2)] []).best
  == (agentDecision Ex.consModel Ex.consParams (groups Ex.consModel) 0
    (simNext Ex.consModel Ex.consParams (solve Ex.consModel Ex.consParams) 0) [[("w", 3/2)]] 0).value

/-- **the reported decisions never depend on what utility returns at an infeasible choice** (`+inf`, `nan`, or nothing at
all - `Expr.div` by zero in the model): two specifications whose utilities agree wherever all constraints hold produce the
same panel - values, choices, states - for every batch, every value arrays and every draw. -/
theorem C02_infeasible_choices_do_not_influence_decisions {m m' : Model} {P : Params}
    (h : UtilityAgreesOnFeasible m m' P) (hstates : m'.states = m.states)
    (V : List (Tensor Ext)) (init : List (List (Name × Rat))) (draws : Draws) :
    simulate m' P V init draws true = simulate m P V init draws true :=
  simulate_congr h.periods hstates (h.periodOut V draws) init

/-- per agent and period, with the value arrays in use left arbitrary -/
theorem C02_decision_ignores_infeasible_utility {m m' : Model} {P : Params} (h : UtilityAgreesOnFeasible m m' P)
    (g : Groups) (t : Nat) (next : Option (Tensor Ext × List (List (Name × Rat)))) (states : List (List (Name × Rat)))
    (i : Nat) : agentDecision m' P g t next states i = agentDecision m P g t next states i :=
  h.agentDecision g t next states i

end Lcm
