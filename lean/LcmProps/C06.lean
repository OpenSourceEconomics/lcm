import LcmProofs.Entry
import LcmProps.Examples
namespace Lcm
attribute [local irreducible] groups

/-! # C06 — solve and simulate agree with each other

(b) is a statement about target plumbing: `solve_and_simulate` *is* `simulate` with
`vf_arr_list := solve(params)` (`if vf_arr_list is None: vf_arr_list = solve_model(params)`).
(a) combines R1 and R2: the simulated value of an agent and the array entry of its grid state are both *the*
maximum (`IsMaxOver`, unique) of the same objective over the same admissible set. `C06_on_grid_value` /
`C06_on_grid_value_unrestricted` prove it at full strength under the only hypotheses that the variable names are
pairwise distinct (`allNames … .Nodup` - enforced by `Model`: dict keys, no name used as state and choice) and
that the agent's state is, as a set of (name, value) pairs, the grid state: the identification of the two
environments is `env_on_grid` (lookups are invariant under permutation of an association list with distinct
keys), the identification of the two filters is `filt_on_feasible`, which rests on `filt_on_grid`: "filters read
filter-restricted variables only" (frame property `callF_frame` of by-name evaluation + the definition of
*restricted* = ancestor of a filter). Both are instances of `EntryOf.simValue_eq`. The `_partial` versions keep the
two facts as explicit hypotheses. -/

/-- target 'solve_and_simulate' -/
def solveAndSimulate (m : Model) (P : Params) (init : List (List (Name × Rat))) (draws : Draws) : List (List Record) :=
  simulate m P (solve m P true) init draws true

/-- (b) `solve_and_simulate` returns what `simulate` returns when it is handed the solved arrays -/
theorem C06_solve_and_simulate (m : Model) (P : Params) (init : List (List (Name × Rat))) (draws : Draws) :
    solveAndSimulate m P init draws = simulate m P (solve m P true) init draws true := rfl

/-- period `t` of the simulation and period `t` of the solution use the *same* continuation: the array of
period `t+1` with the feasible restricted states of period `t+1`; none in the last period -/
theorem C06_same_continuation (m : Model) (P : Params) (t : Nat) :
    simNext m P (solve m P true) t = nextOf m P (solve m P true) t := rfl

/-- (a), models with filter-restricted variables: if agent `i`'s period-`t` state is the grid state addressed
by `(k, dIdx, xIdx)`, the simulated value equals the entry of the solved array of period `t` -/
theorem C06_on_grid_value_partial (m : Model) (P : Params) (t : Nat) (ht : t < m.nPeriods)
    (hsparse : (!((groups m).sS.isEmpty && (groups m).sC.isEmpty)) = true)
    (k : Nat) (hk : k < (feasOf m P t).length) (dIdx xIdx : List Nat)
    (hd : InBounds (sizes (groups m).dS) dIdx) (hx : InBounds (sizes (cStateGrids (groups m))) xIdx)
    (states : List (List (Name × Rat))) (i : Nat) (hi : i < states.length)
    (hEnv : ∀ c e y, EnvEq (toEnv (states.getD i [] ++ c ++ e ++ y))
      (toEnv ((feasOf m P t)[k] ++ c) ++ toEnv (pickAt (groups m).dS dIdx ++ e ++ pickAt (cStateGrids (groups m)) xIdx) ++ toEnv y))
    (hFilt : ∀ c, agentFilt m P (groups m) t (states.getD i []) c = spaceFilt m P t ((feasOf m P t)[k]) c) :
    (agentDecision m P (groups m) t (simNext m P (solve m P true) t) states i).value
      = ((solve m P true).getD t default).get (k :: (dIdx ++ xIdx)) :=
  simValue_eq_entry ht hsparse hk hd hx hi
    (fun c _ e _ y _ => hEnv c e y) (fun c _ => hFilt c)

/-- (a), models without filter-restricted variables: the restricted choice of the agent's triple can only be `[]` and
no filter is applied -/
theorem C06_on_grid_value_unrestricted_partial (m : Model) (P : Params) (t : Nat) (ht : t < m.nPeriods)
    (hdense : (!((groups m).sS.isEmpty && (groups m).sC.isEmpty)) = false)
    (dIdx xIdx : List Nat)
    (hd : InBounds (sizes (groups m).dS) dIdx) (hx : InBounds (sizes (cStateGrids (groups m))) xIdx)
    (states : List (List (Name × Rat))) (i : Nat) (hi : i < states.length)
    (hEnv : ∀ e y, e ∈ assignments (groups m).dC → y ∈ assignments (groups m).cC →
      EnvEq (toEnv (states.getD i [] ++ [] ++ e ++ y))
        (toEnv (pickAt (groups m).dS dIdx ++ e ++ pickAt (cStateGrids (groups m)) xIdx) ++ toEnv y)) :
    (agentDecision m P (groups m) t (simNext m P (solve m P true) t) states i).value
      = ((solve m P true).getD t default).get (dIdx ++ xIdx) :=
  simValue_eq_entry_unrestricted P ht hdense hd hx hi hEnv

/-- (a) at full strength, models without filter-restricted variables -/
theorem C06_on_grid_value_unrestricted (m : Model) (P : Params) (t : Nat) (ht : t < m.nPeriods)
    (hdense : (!((groups m).sS.isEmpty && (groups m).sC.isEmpty)) = false)
    (dIdx xIdx : List Nat)
    (hd : InBounds (sizes (groups m).dS) dIdx) (hx : InBounds (sizes (cStateGrids (groups m))) xIdx)
    (states : List (List (Name × Rat))) (i : Nat) (hi : i < states.length)
    (hnames : (allNames (groups m)).Nodup)
    (hst : (states.getD i []).Perm (pickAt (groups m).dS dIdx ++ pickAt (cStateGrids (groups m)) xIdx)) :
    (agentDecision m P (groups m) t (simNext m P (solve m P true) t) states i).value
      = ((solve m P true).getD t default).get (dIdx ++ xIdx) :=
  (EntryOf.unrestricted hdense dIdx xIdx hd hx).simValue_eq ht hi hnames hst

/-- **(a) at full strength, models with filter-restricted variables**: if the variable names are pairwise
distinct (which `Model` enforces: dict keys, no name used as state and choice) and agent `i`'s period-`t` state
is - as a set of (name, value) pairs - the grid state addressed by `(k, dIdx, xIdx)`, then the simulated value
equals the entry of the solved array of period `t`. No further hypothesis: the environment equivalence is
`env_on_grid`, the filters agree by `filt_on_feasible` ("filters read restricted variables only", `filt_on_grid`:
frame property of by-name evaluation + the definition of *restricted* as "ancestor of a filter"). -/
theorem C06_on_grid_value (m : Model) (P : Params) (t : Nat) (ht : t < m.nPeriods)
    (hsparse : (!((groups m).sS.isEmpty && (groups m).sC.isEmpty)) = true)
    (k : Nat) (hk : k < (feasOf m P t).length) (dIdx xIdx : List Nat)
    (hd : InBounds (sizes (groups m).dS) dIdx) (hx : InBounds (sizes (cStateGrids (groups m))) xIdx)
    (states : List (List (Name × Rat))) (i : Nat) (hi : i < states.length)
    (hnames : (allNames (groups m)).Nodup)
    (hst : (states.getD i []).Perm
      ((feasOf m P t)[k] ++ pickAt (groups m).dS dIdx ++ pickAt (cStateGrids (groups m)) xIdx)) :
    (agentDecision m P (groups m) t (simNext m P (solve m P true) t) states i).value
      = ((solve m P true).getD t default).get (k :: (dIdx ++ xIdx)) :=
  (EntryOf.restricted hsparse k hk dIdx xIdx hd hx).simValue_eq ht hi hnames hst

-- non-vacuity / pinned: on the F1 witness the simulated values in period 0 are the array entries V0[1], V0[2]
#guard ((solveAndSimulate Ex.f1Model Ex.f1Params [[("s", 1)], [("s", 2)]] (fun _ _ _ _ => 0)).getD 0 []).map (·.value)
  == [((solve Ex.f1Model Ex.f1Params).getD 0 default).get [1], ((solve Ex.f1Model Ex.f1Params).getD 0 default).get [2]]

end Lcm
