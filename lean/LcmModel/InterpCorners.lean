import LcmModel.Interp2
namespace Lcm

/-! `lcm.ndimage.map_coordinates` exactly as written: per axis the pair `[(lower, 1-w), (lower+1, w)]`
(`_compute_indices_and_weights`), `itertools.product` over the axes (first axis slowest), for every corner the
product of the weights times the array entry, summed. `interp` (recursive form) is proved equal to it
(`interpCorners_eq_interp`, `LcmProofs/Interp2.lean`), so every theorem about `interp` is a theorem about this
corner-product form. -/

def axisData (size : Nat) (c : Rat) : List (Nat × Rat) :=
  let lo := lowerIdx' c size
  let w := c - (lo : Rat)
  [(lo, 1 - w), (lo + 1, w)]

/-- `itertools.product(*interpolation_data)` -/
def cornerProduct : List (List (Nat × Rat)) → List (List (Nat × Rat))
  | [] => [[]]
  | ax :: rest => ax.flatMap fun p => (cornerProduct rest).map (p :: ·)

def weightProduct (corner : List (Nat × Rat)) : Rat := (corner.map (·.2)).foldr (· * ·) 1

def interpCorners (t : Tensor Rat) (cs : List Rat) : Rat :=
  ((cornerProduct ((t.shape.zip cs).map fun p => axisData p.1 p.2)).map fun corner =>
    weightProduct corner * t.get (corner.map (·.1))).sum

end Lcm
