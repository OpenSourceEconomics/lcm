import LcmProofs.AffineSolve
import LcmProofs.Basic
import LcmProofs.ChoicePerm
import LcmProofs.Congr
import LcmProofs.Degenerate
import LcmProofs.Dispatch
import LcmProofs.Entry
import LcmProofs.EnvPerm
import LcmProofs.FiniteHorizon
import LcmProofs.Frame
import LcmProofs.Groups
import LcmProofs.InfeasibleSim
import LcmProofs.Input
import LcmProofs.Interp
import LcmProofs.Interp2
import LcmProofs.InterpBounds
import LcmProofs.InterpT
import LcmProofs.Keys
import LcmProofs.Laws
import LcmProofs.Lists
import LcmProofs.LogGrid
import LcmProofs.Lse
import LcmProofs.ModelSig
import LcmProofs.NodesPerm
import LcmProofs.Objective
import LcmProofs.OnGrid
import LcmProofs.SimLoop
import LcmProofs.SimPanel
import LcmProofs.SimPeriod
import LcmProofs.SimStep
import LcmProofs.SolveFull
import LcmProofs.SolveLaws
import LcmProofs.SolveLoop
import LcmProofs.SolvePeriod
import LcmProofs.SolveStep
import LcmProofs.Space
import LcmProofs.SpecPerm
import LcmProofs.SpecRefine
import LcmProofs.Targets
import LcmProofs.Tensor
import LcmProofs.TwoRuns
import LcmProofs.UtilityBody
