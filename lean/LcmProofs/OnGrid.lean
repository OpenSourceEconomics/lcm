import LcmProofs.EnvPerm
import LcmProofs.Frame
import LcmProofs.SolveFull
namespace Lcm

/-! "The agent's state is the grid state": the environments that `simulate` and `solve` build for the same
state and choice answer every lookup alike, provided the variable names are pairwise distinct (C06). -/

theorem perm_rearrange {α} [BEq α] [LawfulBEq α] (s D X c e y : List α) :
    (s ++ c ++ (D ++ e ++ X) ++ y).Perm ((s ++ D ++ X) ++ c ++ e ++ y) := by
  rw [List.perm_iff_count]
  intro a
  simp only [List.count_append]
  omega

/-- `simulate` evaluates the objective of an agent in the environment `state ++ c ++ e ++ y` (its state as given, then
the chosen restricted, unrestricted discrete and continuous choices), `solve` that of a stored entry in the environment
of the row `s ++ c`, the dense axes and `y`: rearrangements of each other when the agent sits at the grid state -/
theorem env_on_grid (g : Groups) (hnames : (allNames g).Nodup)
    (st s c e y : List (Name × Rat)) (dIdx xIdx : List Nat)
    (hs : s ∈ assignments g.sS) (hc : c ∈ assignments g.sC) (he : e ∈ assignments g.dC) (hy : y ∈ assignments g.cC)
    (hd : dIdx.length = g.dS.length) (hx : xIdx.length = (cStateGrids g).length)
    (hst : st.Perm (s ++ pickAt g.dS dIdx ++ pickAt (cStateGrids g) xIdx)) :
    EnvEq (toEnv (st ++ c ++ e ++ y))
      (toEnv (s ++ c) ++ toEnv (pickAt g.dS dIdx ++ e ++ pickAt (cStateGrids g) xIdx) ++ toEnv y) := by
  rw [← toEnv_append, ← toEnv_append]
  apply EnvEq.symm
  apply envEq_of_perm
  · refine (perm_rearrange s (pickAt g.dS dIdx) (pickAt (cStateGrids g) xIdx) c e y).trans ?_
    exact List.Perm.append_right _ (List.Perm.append_right _ (List.Perm.append_right _ hst.symm))
  · simp only [List.map_append]
    rw [assignments_keys hs, assignments_keys hc, assignments_keys he, assignments_keys hy,
      pickAt_keys hd, pickAt_keys hx]
    simpa [allNames, List.append_assoc] using hnames

theorem get?_toEnv_none {b : List (Name × Rat)} {x : Name} (hx : x ∉ b.map (·.1)) : (toEnv b).get? x = none := by
  rw [Env.get?, find?_key_eq_none Prod.fst (by rwa [toEnv_keys])]; rfl

theorem get?_skip_middle {a b c : List (Name × Rat)} {pe : Env} {x : Name} (hx : x ∉ b.map (·.1)) :
    (toEnv (a ++ b ++ c) ++ pe).get? x = (toEnv (a ++ c) ++ pe).get? x := by
  simp only [toEnv_append, get?_append, get?_toEnv_none hx]
  cases (toEnv a).get? x <;> rfl

theorem nodup_sub {sS sC dS dC cS cC : List Name} (h : (sS ++ sC ++ dS ++ dC ++ cS ++ cC).Nodup) :
    (sS ++ dS ++ cS ++ sC).Nodup := by
  rw [List.nodup_iff_count] at h ⊢
  intro a
  have := h a
  simp only [List.count_append] at this ⊢
  omega

theorem allTrue_filters_skip {m : Model} (P : Params) (a b c : List (Name × Rat)) (pe : Env)
    (hb : ∀ x ∈ b.map (·.1), ∀ f ∈ filterNames m, x ∉ ancestorsAux m m.fuel f) :
    allTrue m P (toEnv (a ++ b ++ c) ++ pe) (filterNames m) = allTrue m P (toEnv (a ++ c) ++ pe) (filterNames m) :=
  allTrue_frame P fun f hf x hxa => get?_skip_middle fun hx => hb x hx f hf hxa

theorem dense_state_keys_not_read {m : Model} {dIdx xIdx : List Nat}
    (hd : dIdx.length = (groups m).dS.length) (hx : xIdx.length = (cStateGrids (groups m)).length) :
    ∀ x ∈ (pickAt (groups m).dS dIdx ++ pickAt (cStateGrids (groups m)) xIdx).map (·.1),
      ∀ f ∈ filterNames m, x ∉ ancestorsAux m m.fuel f := by
  intro x hmem f hf
  rw [List.map_append, pickAt_keys hd, pickAt_keys hx] at hmem
  exact dense_not_read_by_filters (.inl (List.mem_append.mp hmem)) hf

/-! `agentFilt` by cases: without a restricted choice variable `simulate` applies no filter; with one, the filter of the
stored space is evaluated at the agent's own state. -/
theorem agentFilt_of_isEmpty {g : Groups} {m : Model} {P : Params} {t : Nat} {st c : List (Name × Rat)}
    (h : g.sC.isEmpty = true) : agentFilt m P g t st c = true := if_pos h

theorem agentFilt_eq_spaceFilt {g : Groups} {m : Model} {P : Params} {t : Nat} {st c : List (Name × Rat)}
    (h : g.sC.isEmpty = false) : agentFilt m P g t st c = spaceFilt m P t st c :=
  if_neg (by rw [h]; exact Bool.false_ne_true)

/-- the filter of the data state-choice space evaluated at an agent whose state is the grid state equals the filter of
the stored space at that grid state -/
theorem filt_on_grid (m : Model) (P : Params) (t : Nat) (hnames : (allNames (groups m)).Nodup)
    (st s c : List (Name × Rat)) (dIdx xIdx : List Nat)
    (hs : s ∈ assignments (groups m).sS) (hc : c ∈ assignments (groups m).sC)
    (hd : dIdx.length = (groups m).dS.length) (hx : xIdx.length = (cStateGrids (groups m)).length)
    (hst : st.Perm (s ++ pickAt (groups m).dS dIdx ++ pickAt (cStateGrids (groups m)) xIdx))
    (hsC : (groups m).sC.isEmpty = false) :
    agentFilt m P (groups m) t st c = spaceFilt m P t s c := by
  rw [agentFilt_eq_spaceFilt hsC, spaceFilt_eq, spaceFilt_eq]
  -- reorder the agent's state into canonical order, then drop the unrestricted states
  have hperm : (st ++ c).Perm (s ++ (pickAt (groups m).dS dIdx ++ pickAt (cStateGrids (groups m)) xIdx) ++ c) := by
    rw [← List.append_assoc]; exact List.Perm.append_right c hst
  have hkeys : ((s ++ (pickAt (groups m).dS dIdx ++ pickAt (cStateGrids (groups m)) xIdx) ++ c).map (·.1)).Nodup := by
    simp only [List.map_append]
    rw [assignments_keys hs, assignments_keys hc, pickAt_keys hd, pickAt_keys hx, ← List.append_assoc]
    exact nodup_sub (by simpa [allNames] using hnames)
  rw [allTrue_congr_env m P ((envEq_of_perm _ _ hperm.symm hkeys).symm.append (EnvEq.refl _))]
  exact congrArg (·.getD false) (allTrue_filters_skip P s _ c _ (dense_state_keys_not_read hd hx))

/-- the `else` branch of `solvePeriod`: no filter-restricted variable at all -/
theorem unrestricted_nil {g : Groups} (h : (!(g.sS.isEmpty && g.sC.isEmpty)) = false) : g.sS = [] ∧ g.sC = [] := by
  simpa using h

theorem spaceFilt_nil_of_feasible {m : Model} {P : Params} {t : Nat} {s : List (Name × Rat)} (hs : s ∈ feasOf m P t)
    (hsC : (groups m).sC.isEmpty = true) : spaceFilt m P t s [] = true := by
  have hany := (mem_feasOf.mp hs).2
  rwa [List.isEmpty_iff.mp hsC, assignments, List.any_cons, List.any_nil, Bool.or_false] at hany

/-- `filt_on_grid` for a *feasible* grid state, the case "no restricted choice variable" included: there `simulate`
applies no filter at all, and the stored space kept the state because the filter holds at it -/
theorem filt_on_feasible {m : Model} {P : Params} {t : Nat} (hnames : (allNames (groups m)).Nodup)
    {st s c : List (Name × Rat)} {dIdx xIdx : List Nat}
    (hs : s ∈ feasOf m P t) (hc : c ∈ assignments (groups m).sC)
    (hd : dIdx.length = (groups m).dS.length) (hx : xIdx.length = (cStateGrids (groups m)).length)
    (hst : st.Perm (s ++ pickAt (groups m).dS dIdx ++ pickAt (cStateGrids (groups m)) xIdx)) :
    agentFilt m P (groups m) t st c = spaceFilt m P t s c := by
  cases hsC : (groups m).sC.isEmpty with
  | false => exact filt_on_grid m P t hnames st s c dIdx xIdx (mem_feasOf.mp hs).1 hc hd hx hst hsC
  | true =>
    obtain rfl := (mem_assignments_of_isEmpty hsC).mp hc
    rw [agentFilt_of_isEmpty hsC, spaceFilt_nil_of_feasible hs hsC]

theorem filters_hold_on_feasible {m : Model} {P : Params} {t : Nat} {s b : List (Name × Rat)}
    (hs : s ∈ feasOf m P t) (hsC : (groups m).sC.isEmpty = true)
    (hb : ∀ x ∈ b.map (·.1), ∀ f ∈ filterNames m, x ∉ ancestorsAux m m.fuel f) :
    allTrue m P (toEnv (s ++ b) ++ periodEnv t) (filterNames m) = some true := by
  have hany := spaceFilt_nil_of_feasible hs hsC
  rw [spaceFilt_eq, ← allTrue_filters_skip P s b [] (periodEnv t) hb, List.append_nil] at hany
  exact (Option.getD_eq_iff.mp hany).resolve_right fun h => Bool.false_ne_true h.2

#print axioms env_on_grid
#print axioms filt_on_grid
end Lcm
