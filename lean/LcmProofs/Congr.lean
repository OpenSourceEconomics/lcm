import LcmModel.Solve
import LcmProofs.Lists
namespace Lcm

/-! By-name evaluation depends on the model only through `Model.func?`, on an environment only through `Env.get?` and
on the parameters only through `Params.get?`, each at the names reachable from the called one (`callF_congr`) - the
fact behind "argument order is irrelevant" (C09), "declaration order is irrelevant" (C10), parameter routing (C07) and
the bridge between the environments of `solve` and `simulate` (C06). -/

def EnvEq (e e' : Env) : Prop := ∀ x, e.get? x = e'.get? x

theorem EnvEq.refl (e : Env) : EnvEq e e := fun _ => rfl
theorem EnvEq.symm {e e' : Env} (h : EnvEq e e') : EnvEq e' e := fun x => (h x).symm
theorem EnvEq.trans {a b c : Env} (h1 : EnvEq a b) (h2 : EnvEq b c) : EnvEq a c := fun x => (h1 x).trans (h2 x)

theorem get?_append (a b : Env) (x : Name) :
    (a ++ b).get? x = match a.get? x with | some v => some v | none => b.get? x := by
  unfold Env.get?
  rw [List.find?_append]
  cases h : List.find? (fun p => p.1 == x) a <;> simp

theorem EnvEq.append {a a' b b' : Env} (h1 : EnvEq a a') (h2 : EnvEq b b') : EnvEq (a ++ b) (a' ++ b') := by
  intro x
  rw [get?_append, get?_append, h1 x, h2 x]

theorem func?_name {m : Model} {n : Name} {f : Func} (h : m.func? n = some f) : f.name = n := by
  simpa using List.find?_some h

theorem mem_ancestorsAux_succ {m : Model} {fuel : Nat} {n x : Name} :
    x ∈ ancestorsAux m (fuel + 1) n ↔
      ∃ f, m.func? n = some f ∧ (x ∈ f.args ∨ ∃ a ∈ f.args, x ∈ ancestorsAux m fuel a) := by
  rw [ancestorsAux]
  cases m.func? n with
  | none => simp
  | some f => simp [List.mem_append, List.mem_flatMap]

/-- the argument lookup written inline in `callF`, named so that one step of the recursion is an equation (`callF_succ`) -/
def argVal (m : Model) (P : Params) (fuel : Nat) (env : Env) (fname a : Name) : Option Val :=
  match m.func? a with
  | some _ => callF m P fuel env a
  | none =>
    match env.get? a with
    | some v => some v
    | none => (P.get? fname a).map Val.num

theorem callF_succ (m : Model) (P : Params) (fuel : Nat) (env : Env) (fname : Name) :
    callF m P (fuel + 1) env fname = (m.func? fname).bind fun f =>
      (f.args.mapM (argVal m P fuel env fname)).bind fun vals => f.body.eval (f.args.zip vals) := rfl

/-- **what by-name evaluation reads.** `callF … fname` looks at the model at `fname` and at the names reachable from it
(`ancestorsAux`, the model of `dags.get_ancestors`), at the environment at reachable names, and at the parameters only in
the slots `params[g][x]` of a reachable function `g` and one of its own arguments `x`. Every statement of the form
"evaluation does not depend on …" is an instance. The conclusion reads "primed = unprimed" and the reachable names are
those of the unprimed model, the one on the right. -/
theorem callF_congr {m m' : Model} {P P' : Params} {e e' : Env} {fuel : Nat} {fname : Name}
    (hm : ∀ x, x = fname ∨ x ∈ ancestorsAux m fuel fname → m'.func? x = m.func? x)
    (he : ∀ x ∈ ancestorsAux m fuel fname, e'.get? x = e.get? x)
    (hP : ∀ g f, g = fname ∨ g ∈ ancestorsAux m fuel fname → m.func? g = some f →
      ∀ x ∈ f.args, P'.get? g x = P.get? g x) :
    callF m' P' fuel e' fname = callF m P fuel e fname := by
  induction fuel generalizing fname with
  | zero => rfl
  | succ fuel ih =>
    rw [callF_succ, callF_succ, hm fname (Or.inl rfl)]
    cases hf : m.func? fname with
    | none => rfl
    | some f =>
      have harg : ∀ a ∈ f.args, a ∈ ancestorsAux m (fuel + 1) fname :=
        fun a ha => mem_ancestorsAux_succ.mpr ⟨f, hf, .inl ha⟩
      have hsub : ∀ a ∈ f.args, ∀ x, x = a ∨ x ∈ ancestorsAux m fuel a → x ∈ ancestorsAux m (fuel + 1) fname :=
        fun a ha x hx => hx.elim (· ▸ harg a ha) fun hx => mem_ancestorsAux_succ.mpr ⟨f, hf, .inr ⟨a, ha, hx⟩⟩
      have hargs : f.args.mapM (argVal m' P' fuel e' fname) = f.args.mapM (argVal m P fuel e fname) :=
        mapM_congr_option fun a ha => by
          unfold argVal
          rw [hm a (Or.inr (harg a ha))]
          cases m.func? a with
          | some _ =>
            exact ih (fun x hx => hm x (Or.inr (hsub a ha x hx))) (fun x hx => he x (hsub a ha x (Or.inr hx)))
              (fun g f' hg => hP g f' (Or.inr (hsub a ha g hg)))
          | none => simp only [he a (harg a ha), hP fname f (Or.inl rfl) hf a ha]
      rw [Option.bind_some, Option.bind_some, hargs]

/-- the aggregator is `&&`, so the accumulator of the fold can be pulled out -/
theorem allTrue_cons (m : Model) (P : Params) (env : Env) (n : Name) (l : List Name) :
    allTrue m P env (n :: l) = (callF m P m.fuel env n).bind fun v => (allTrue m P env l).map (v.toBool && ·) := by
  have pull : ∀ (l : List Name) (a : Bool),
      l.foldlM (fun acc n => do let v ← callF m P m.fuel env n; pure (acc && v.toBool)) a
        = (allTrue m P env l).map (a && ·) := by
    intro l
    induction l with
    | nil => intro a; simp [allTrue]
    | cons n l ih =>
      intro a
      show _ = Option.map _ ((n :: l).foldlM _ true)
      rw [List.foldlM_cons, List.foldlM_cons]
      cases callF m P m.fuel env n with
      | none => rfl
      | some v =>
        refine (ih (a && v.toBool)).trans (.trans ?_ (congrArg _ (ih (true && v.toBool)).symm))
        cases allTrue m P env l <;> simp [Bool.and_assoc]
  show (n :: l).foldlM _ true = _
  rw [List.foldlM_cons]
  cases callF m P m.fuel env n with
  | none => rfl
  | some v => exact (pull l (true && v.toBool)).trans (by simp)

theorem allTrue_congr {m m' : Model} {P P' : Params} {e e' : Env} {names : List Name}
    (h : ∀ n ∈ names, callF m' P' m'.fuel e' n = callF m P m.fuel e n) :
    allTrue m' P' e' names = allTrue m P e names := by
  induction names with
  | nil => rfl
  | cons n l ih =>
    rw [allTrue_cons, allTrue_cons, h n List.mem_cons_self, ih fun k hk => h k (List.mem_cons_of_mem _ hk)]

theorem allTrue_filter_congr {m m' : Model} {P P' : Params} {e e' : Env} (hfi : functionInfo m' = functionInfo m)
    {p : FunctionInfo → Bool}
    (hcall : ∀ fi ∈ functionInfo m, p fi = true → callF m' P' m'.fuel e' fi.name = callF m P m.fuel e fi.name) :
    allTrue m' P' e' (((functionInfo m').filter p).map (·.name))
      = allTrue m P e (((functionInfo m).filter p).map (·.name)) := by
  rw [hfi]
  refine allTrue_congr fun n hn => ?_
  obtain ⟨fi, hfi, rfl⟩ := List.mem_map.mp hn
  exact hcall fi (List.mem_filter.mp hfi).1 (List.mem_filter.mp hfi).2

theorem allTrue_true_all {m : Model} {P : Params} {env : Env} {l : List Name}
    (h : allTrue m P env l = some true) : ∀ n ∈ l, ∃ v, callF m P m.fuel env n = some v ∧ v.toBool = true := by
  induction l with
  | nil => intro n hn; cases hn
  | cons a rest ih =>
    rw [allTrue_cons] at h
    simp only [Option.bind_eq_some_iff, Option.map_eq_some_iff, Bool.and_eq_true] at h
    obtain ⟨v, hc, b, hr, hv, rfl⟩ := h
    intro n hn
    rcases List.mem_cons.mp hn with rfl | hn'
    · exact ⟨v, hc, hv⟩
    · exact ih hr n hn'

theorem callF_congr_env (m : Model) (P : Params) (fuel : Nat) {e e' : Env} (h : EnvEq e e') (fname : Name) :
    callF m P fuel e fname = callF m P fuel e' fname :=
  callF_congr (fun _ _ => rfl) (fun x _ => h x) (fun _ _ _ _ _ _ => rfl)

theorem allTrue_congr_env (m : Model) (P : Params) {e e' : Env} (h : EnvEq e e') (names : List Name) :
    allTrue m P e names = allTrue m P e' names :=
  allTrue_congr fun n _ => callF_congr_env m P m.fuel h n

theorem callF_congr_params (m : Model) {P P' : Params} (hP : ∀ f p, P.get? f p = P'.get? f p)
    (fuel : Nat) (e : Env) (fname : Name) : callF m P fuel e fname = callF m P' fuel e fname :=
  callF_congr (fun _ _ => rfl) (fun _ _ => rfl) (fun g _ _ _ x _ => hP g x)

theorem callF_congr_funcs (m m' : Model) (h : ∀ n, m.func? n = m'.func? n) (P : Params) (fuel : Nat)
    (e : Env) (fname : Name) : callF m P fuel e fname = callF m' P fuel e fname :=
  callF_congr (fun x _ => h x) (fun _ _ => rfl) (fun _ _ _ _ _ _ => rfl)

#print axioms callF_congr_env
end Lcm
