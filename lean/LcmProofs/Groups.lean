import LcmModel.Spec
import LcmProofs.Lists
import Mathlib.Data.List.Perm.Basic
namespace Lcm

/-! Canonical variable order and `groups`. `variableInfo` (LcmModel/Input.lean) is the bucket sort of the declared variables
by six group predicates, so every group of `variableInfo` (`variableInfo_filter`), hence every field of `groups m`
(`groups_eq`), is the declaration-order list of the declared variables with the group's flags; the three kinds
(filter-restricted, unrestricted discrete, continuous) partition the declared variables of either role. Used to relate
enumeration in declaration order (specification level) to the group-wise enumeration of `solve` / `simulate`. -/

/-- the declared variables with their flags, states first, in declaration order (`info` before the re-ordering in
`get_variable_info`). This and `mkInfo` repeat the flag computation inside `variableInfo`, which has no name there; the
bridges are `rfl` (`variableInfo_eq_groups`, `declaredInfo_mk`). -/
def declaredInfo (m : Model) : List VariableInfo :=
  let fi := functionInfo m
  let filterNames := (fi.filter (·.isFilter)).map (·.name)
  let filtered := ancestors m filterNames
  let nonNext := (fi.filter (!·.isNext)).map (·.name)
  let usedOutsideNext := nonNext ++ ancestors m nonNext
  let mk := fun (isState : Bool) (p : Name × Grid) =>
    let stoch := isState && ((fi.find? (·.name == "next_" ++ p.1)).map (·.isStochasticNext)).getD false
    let sparse := filtered.contains p.1
    ({ name := p.1, isState, isChoice := !isState, isContinuous := p.2.isContinuous,
       isDiscrete := !p.2.isContinuous, isStochastic := stoch,
       isAuxiliary := isState && !usedOutsideNext.contains p.1,
       isSparse := sparse, isDense := !sparse } : VariableInfo)
  m.states.map (mk true) ++ m.choices.map (mk false)

/-- flags of a declared variable (the `mk` of `get_variable_info`) -/
def mkInfo (m : Model) (isState : Bool) (p : Name × Grid) : VariableInfo :=
  let fi := functionInfo m
  let filterNames := (fi.filter (·.isFilter)).map (·.name)
  let filtered := ancestors m filterNames
  let nonNext := (fi.filter (!·.isNext)).map (·.name)
  let usedOutsideNext := nonNext ++ ancestors m nonNext
  let stoch := isState && ((fi.find? (·.name == "next_" ++ p.1)).map (·.isStochasticNext)).getD false
  let sparse := filtered.contains p.1
  { name := p.1, isState, isChoice := !isState, isContinuous := p.2.isContinuous,
    isDiscrete := !p.2.isContinuous, isStochastic := stoch,
    isAuxiliary := isState && !usedOutsideNext.contains p.1,
    isSparse := sparse, isDense := !sparse }

theorem declaredInfo_mk (m : Model) :
    declaredInfo m = m.states.map (mkInfo m true) ++ m.choices.map (mkInfo m false) := rfl

/-- `isDense` is, by definition, the negation of the membership test. Stated, because a unifier left to find it unfolds all
of `mkInfo`. -/
theorem mkInfo_isDense (m : Model) (b : Bool) (p : Name × Grid) :
    (mkInfo m b p).isDense = !(ancestors m (filterNames m)).contains p.1 := rfl

/-- among the variables declared in one role none satisfies a predicate that asks for the other role -/
theorem filter_mkInfo_other (m : Model) (b : Bool) {l : List (Name × Grid)} {q : VariableInfo → Bool}
    (hq : ∀ v, q v = true → v.isState = !b ∨ v.isChoice = b) : (l.map (mkInfo m b)).filter q = [] := by
  rw [List.filter_eq_nil_iff]
  intro v hv h
  obtain ⟨p, _, rfl⟩ := List.mem_map.mp hv
  -- `mkInfo m b p` has `isState = b` and `isChoice = !b`
  rcases hq _ h with h' | h'
  · exact (Bool.eq_not_self b).mp h'
  · exact (Bool.not_eq_self b).mp h'

theorem declaredInfo_filter_states (m : Model) {p : VariableInfo → Bool} (hp : ∀ v, p v = true → v.isState = true) :
    (declaredInfo m).filter p = (m.states.map (mkInfo m true)).filter p := by
  rw [declaredInfo_mk, List.filter_append, filter_mkInfo_other m false fun v h => .inl (hp v h), List.append_nil]

theorem declaredInfo_filter_choices (m : Model) {p : VariableInfo → Bool} (hp : ∀ v, p v = true → v.isChoice = true) :
    (declaredInfo m).filter p = (m.choices.map (mkInfo m false)).filter p := by
  rw [declaredInfo_mk, List.filter_append, filter_mkInfo_other m true fun v h => .inr (hp v h), List.nil_append]

theorem declaredInfo_inv {m : Model} {v : VariableInfo} (hv : v ∈ declaredInfo m) :
    v.isChoice = !v.isState ∧ v.isDiscrete = !v.isContinuous ∧ v.isDense = !v.isSparse := by
  simp only [declaredInfo, List.mem_append, List.mem_map] at hv
  rcases hv with ⟨p, _, rfl⟩ | ⟨p, _, rfl⟩ <;> simp

/-- the six group predicates of `get_variable_info`, by position in the canonical order -/
def groupPred : Nat → VariableInfo → Bool
  | 0 => fun v => v.isSparse && v.isState
  | 1 => fun v => v.isSparse && v.isChoice
  | 2 => fun v => v.isDense && v.isDiscrete && v.isState
  | 3 => fun v => v.isDense && v.isDiscrete && v.isChoice
  | 4 => fun v => v.isDense && v.isContinuous && v.isState
  | 5 => fun v => v.isDense && v.isContinuous && v.isChoice
  | _ => fun _ => false

theorem variableInfo_eq_groups (m : Model) :
    variableInfo m =
      (declaredInfo m).filter (groupPred 0) ++ (declaredInfo m).filter (groupPred 1) ++
      (declaredInfo m).filter (groupPred 2) ++ (declaredInfo m).filter (groupPred 3) ++
      (declaredInfo m).filter (groupPred 4) ++ (declaredInfo m).filter (groupPred 5) := rfl

def groupIx (v : VariableInfo) : Nat :=
  if v.isSparse then (if v.isState then 0 else 1)
  else if v.isContinuous then (if v.isState then 4 else 5) else (if v.isState then 2 else 3)

theorem groupIx_of_groupPred {m : Model} {v : VariableInfo} (hv : v ∈ declaredInfo m) {i : Nat}
    (h : groupPred i v = true) : groupIx v = i := by
  obtain ⟨h1, h2, h3⟩ := declaredInfo_inv hv
  obtain _|_|_|_|_|_|i := i <;>
    simp only [groupPred, Bool.and_eq_true, h1, h2, h3, Bool.not_eq_true', Bool.false_eq_true] at h <;>
    simp [groupIx, h]

/-- **the canonical order keeps the declaration order inside every group**: for every predicate `p`
that (on declared variables) implies the `i`-th group predicate, filtering the canonical order by `p`
is filtering the declared variables by `p` -/
theorem variableInfo_filter {m : Model} {p : VariableInfo → Bool} (i : Nat)
    (hp : ∀ v ∈ declaredInfo m, p v = true → groupPred i v = true) :
    (variableInfo m).filter p = (declaredInfo m).filter p := by
  -- bucket `i` keeps all `p`-variables, every other bucket has none
  have key : ∀ j, ((declaredInfo m).filter (groupPred j)).filter p
      = if j = i then (declaredInfo m).filter p else [] := by
    intro j
    split
    · subst j; exact filter_filter_of_imp hp
    · next hj =>
      rw [List.filter_filter, List.filter_eq_nil_iff]
      intro v hv hpq
      rw [Bool.and_eq_true] at hpq
      exact hj ((groupIx_of_groupPred hv hpq.2).symm.trans (groupIx_of_groupPred hv (hp v hv hpq.1)))
  rw [variableInfo_eq_groups]
  simp only [List.filter_append, key]
  -- for each of the six buckets `i` the `if j = i` of `key` is decided: one bucket stays, five are `[]`
  obtain _|_|_|_|_|_|i := i
  iterate 6 simp
  · have : (declaredInfo m).filter p = [] :=
      List.filter_eq_nil_iff.mpr fun v hv h => Bool.false_ne_true (hp v hv h)
    simp [this]

/-- states precede choices in the declared list, and filtering keeps the relative order: the names of a
state group are a sublist of the declared state names -/
theorem declaredInfo_states_sublist (m : Model) {p : VariableInfo → Bool} (hp : ∀ v, p v = true → v.isState = true) :
    (((declaredInfo m).filter p).map (·.name)).Sublist (m.states.map (·.1)) := by
  have hn : m.states.map (·.1) = (m.states.map (mkInfo m true)).map (·.name) := by
    rw [List.map_map]; rfl
  rw [declaredInfo_filter_states m hp, hn]
  exact List.filter_sublist.map _

#print axioms variableInfo_filter

/-- **the three kinds (filter-restricted, unrestricted discrete, continuous) partition the declared variables of either
role** `r` (state, choice), each kind in declaration order -/
theorem kinds_perm (m : Model) (r : VariableInfo → Bool) :
    ((declaredInfo m).filter (fun v => v.isSparse && r v)
      ++ (declaredInfo m).filter (fun v => v.isDense && v.isDiscrete && r v)
      ++ (declaredInfo m).filter (fun v => v.isDense && v.isContinuous && r v)).Perm ((declaredInfo m).filter r) := by
  have hr : ∀ k : VariableInfo → Bool, ∀ v ∈ declaredInfo m, (k v && r v) = true → r v = true :=
    fun k v _ h => (Bool.and_eq_true _ _ ▸ h).2
  rw [← filter_filter_of_imp (hr (·.isSparse)),
    ← filter_filter_of_imp (hr fun v => v.isDense && v.isDiscrete),
    ← filter_filter_of_imp (hr fun v => v.isDense && v.isContinuous)]
  refine perm_three_filters fun v hv => ?_
  obtain ⟨hv, hrv⟩ := List.mem_filter.mp hv
  obtain ⟨-, h2, h3⟩ := declaredInfo_inv hv
  rw [h2, h3, hrv]
  cases v.isSparse <;> cases v.isContinuous <;> decide

/-- the grid a name is declared with (`gridOf` of `groups`) -/
def gridOf (m : Model) (x : Name) : Grid := (((m.states ++ m.choices).find? (·.1 == x)).map (·.2)).getD (.disc 0)

theorem gridOf_of_mem {m : Model} (hnd : ((m.states ++ m.choices).map (·.1)).Nodup) {p : Name × Grid}
    (hp : p ∈ m.states ++ m.choices) : gridOf m p.1 = p.2 := by
  unfold gridOf
  rw [find?_key_of_mem Prod.fst hnd hp]
  rfl

theorem gridOf_state (m : Model) (hnd : ((m.states ++ m.choices).map (·.1)).Nodup) (p : Name × Grid)
    (hp : p ∈ m.states) : gridOf m p.1 = p.2 :=
  gridOf_of_mem hnd (List.mem_append_left _ hp)

def pickOf (m : Model) (p : VariableInfo → Bool) : List (Name × Grid) :=
  ((declaredInfo m).filter p).map fun v => (v.name, gridOf m v.name)

def pts (l : List (Name × Grid)) : List (Name × List Rat) := l.map fun q => (q.1, q.2.points)

/-- **the six groups of `groups m`**: each is the declaration-order list of the declared variables with the group's
flags (`variableInfo_filter`: the canonical order keeps the declaration order inside a group) -/
theorem groups_eq (m : Model) : groups m =
    { sS := pts (pickOf m (groupPred 0)), sC := pts (pickOf m (groupPred 1)), dS := pts (pickOf m (groupPred 2)),
      dC := pts (pickOf m (groupPred 3)), cS := pickOf m (groupPred 4), cC := pts (pickOf m (groupPred 5)) } := by
  have key : ∀ i, (variableInfo m).filter (groupPred i) = (declaredInfo m).filter (groupPred i) :=
    fun i => variableInfo_filter i fun _ _ h => h
  show Groups.mk (((variableInfo m).filter (groupPred 0)).map _) (((variableInfo m).filter (groupPred 1)).map _)
    (((variableInfo m).filter (groupPred 2)).map _) (((variableInfo m).filter (groupPred 3)).map _)
    (((variableInfo m).filter (groupPred 4)).map _) (((variableInfo m).filter (groupPred 5)).map _) = _
  simp only [key, pts, pickOf, List.map_map]
  rfl

theorem cStateGrids_groups (m : Model) : cStateGrids (groups m) = pts (pickOf m (groupPred 4)) := by
  rw [groups_eq]; rfl

theorem pts_pickOf_names (m : Model) (p : VariableInfo → Bool) :
    (pts (pickOf m p)).map (·.1) = ((declaredInfo m).filter p).map (·.name) := by
  unfold pts pickOf; rw [List.map_map, List.map_map]; rfl

theorem groupPred_isState (i : Nat) (hi : i = 0 ∨ i = 2 ∨ i = 4) (v : VariableInfo) (h : groupPred i v = true) :
    v.isState = true := by
  rcases hi with rfl | rfl | rfl <;> exact (Bool.and_eq_true _ _ ▸ h).2

theorem groupPred_isChoice (i : Nat) (hi : i = 1 ∨ i = 3 ∨ i = 5) (v : VariableInfo) (h : groupPred i v = true) :
    v.isChoice = true := by
  rcases hi with rfl | rfl | rfl <;> exact (Bool.and_eq_true _ _ ▸ h).2

theorem groupPred_isDense (i : Nat) (hi : i = 2 ∨ i = 3 ∨ i = 4 ∨ i = 5) (v : VariableInfo) (h : groupPred i v = true) :
    v.isDense = true := by
  rcases hi with rfl | rfl | rfl | rfl <;> exact (Bool.and_eq_true _ _ ▸ (Bool.and_eq_true _ _ ▸ h).1).1

theorem declaredStates_eq (m : Model) : (declaredInfo m).filter (·.isState) = m.states.map (mkInfo m true) := by
  rw [declaredInfo_filter_states m fun _ h => h, List.filter_eq_self]
  exact List.forall_mem_map.mpr fun _ _ => rfl

theorem declaredChoices_eq (m : Model) : (declaredInfo m).filter (·.isChoice) = m.choices.map (mkInfo m false) := by
  rw [declaredInfo_filter_choices m fun _ h => h, List.filter_eq_self]
  exact List.forall_mem_map.mpr fun _ _ => rfl

theorem choices_perm {m : Model} (hnd : ((m.states ++ m.choices).map (·.1)).Nodup) :
    ((groups m).sC ++ (groups m).dC ++ (groups m).cC).Perm (m.choices.map fun p => (p.1, p.2.points)) := by
  simp only [groups_eq, pts, pickOf, List.map_map]
  rw [← List.map_append, ← List.map_append]
  refine ((kinds_perm m (·.isChoice)).map _).trans ?_
  -- the flagged declared choices, mapped to (name, points), are the declared choices
  apply List.Perm.of_eq
  rw [declaredChoices_eq, List.map_map]
  apply List.map_congr_left
  intro p hp
  show (p.1, (gridOf m p.1).points) = (p.1, p.2.points)
  rw [gridOf_of_mem hnd (List.mem_append_right _ hp)]

#print axioms choices_perm

theorem state_names_perm (m : Model) :
    ((groups m).sS.map (·.1) ++ (groups m).dS.map (·.1) ++ (cStateGrids (groups m)).map (·.1)).Perm (m.states.map (·.1)) := by
  rw [cStateGrids_groups]
  simp only [groups_eq, pts_pickOf_names]
  rw [← List.map_append, ← List.map_append]
  refine ((kinds_perm m (·.isState)).map _).trans ?_
  apply List.Perm.of_eq
  rw [declaredStates_eq, List.map_map]
  rfl

theorem choice_names_perm (m : Model) :
    ((groups m).sC.map (·.1) ++ (groups m).dC.map (·.1) ++ (groups m).cC.map (·.1)).Perm (m.choices.map (·.1)) := by
  simp only [groups_eq, pts_pickOf_names]
  rw [← List.map_append, ← List.map_append]
  refine ((kinds_perm m (·.isChoice)).map _).trans ?_
  apply List.Perm.of_eq
  rw [declaredChoices_eq, List.map_map]
  rfl

/-- all variable names of the model, in canonical order -/
def allNames (g : Groups) : List Name :=
  g.sS.map (·.1) ++ g.sC.map (·.1) ++ g.dS.map (·.1) ++ g.dC.map (·.1) ++ (cStateGrids g).map (·.1) ++ g.cC.map (·.1)

theorem allNames_perm (m : Model) : (allNames (groups m)).Perm ((m.states ++ m.choices).map (·.1)) := by
  rw [List.map_append]
  refine List.Perm.trans ?_ ((state_names_perm m).append (choice_names_perm m))
  unfold allNames
  rw [List.perm_iff_count]
  intro x
  simp only [List.count_append]
  omega

theorem allNames_nodup {m : Model} (hnd : ((m.states ++ m.choices).map (·.1)).Nodup) : (allNames (groups m)).Nodup :=
  (allNames_perm m).nodup_iff.mpr hnd

end Lcm
