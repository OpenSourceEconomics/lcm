import LcmModel.Sim
import LcmProofs.SimStep
namespace Lcm

/-- R2 for one agent and one period on the executable model (`C02_decision_is_feasible_maximiser`) -/
theorem agentDecision_spec (m : Model) (P : Params) (g : Groups) (t : Nat)
    (next : Option (Tensor Ext × List (List (Name × Rat)))) (states : List (List (Name × Rat)))
    (i : Nat) (hi : i < states.length) :
    let st := states.getD i []
    let out := simChoice states.length (assignments g.sC) (assignments g.dC) (assignments g.cC)
      (fun k c => agentFilt m P g t (states.getD k []) c)
      (fun k c e y => valueOf (agentObj m P g t next (states.getD k []) c e y))
      (fun k c e y => feasibleOf (agentObj m P g t next (states.getD k []) c e y)) i
    (agentDecision m P g t next states i).value = out.2.2.2 ∧
    IsMaxOver
      (fun x : List (Name × Rat) × (List (Name × Rat) × List (Name × Rat)) =>
        (x.1 ∈ assignments g.sC ∧ agentFilt m P g t st x.1 = true) ∧
          (x.2.1 ∈ assignments g.dC ∧ (x.2.2 ∈ assignments g.cC ∧
            feasibleOf (agentObj m P g t next st x.1 x.2.1 x.2.2) = true)))
      (fun x => valueOf (agentObj m P g t next st x.1 x.2.1 x.2.2))
      (agentDecision m P g t next states i).value ∧
    ((agentDecision m P g t next states i).value ≠ .ninf →
      out.1 ∈ assignments g.sC ∧ agentFilt m P g t st out.1 = true ∧
      out.2.1 ∈ assignments g.dC ∧ out.2.2.1 ∈ assignments g.cC ∧
      feasibleOf (agentObj m P g t next st out.1 out.2.1 out.2.2.1) = true ∧
      (agentDecision m P g t next states i).value
        = .fin (valueOf (agentObj m P g t next st out.1 out.2.1 out.2.2.1))) :=
  ⟨rfl, simChoice_spec states.length (assignments g.sC) (assignments g.dC) (assignments g.cC)
    (fun k c => agentFilt m P g t (states.getD k []) c)
    (fun k c e y => valueOf (agentObj m P g t next (states.getD k []) c e y))
    (fun k c e y => feasibleOf (agentObj m P g t next (states.getD k []) c e y)) i hi⟩

theorem feasibleOf_eq_true {o : Option (Rat × Bool)} (h : feasibleOf o = true) : o = some (valueOf o, true) := by
  rcases o with _ | ⟨q, _ | _⟩ <;> first | rfl | cases h

theorem agentDecision_attains {m : Model} {P : Params} {g : Groups} {t : Nat}
    {next : Option (Tensor Ext × List (List (Name × Rat)))} {states : List (List (Name × Rat))}
    {i : Nat} (hi : i < states.length) (hfin : (agentDecision m P g t next states i).value ≠ .ninf) :
    ∃ c ∈ assignments g.sC, ∃ e ∈ assignments g.dC, ∃ y ∈ assignments g.cC, ∃ q : Rat,
      (agentDecision m P g t next states i).choices = e ++ c ++ y ∧
      agentFilt m P g t (states.getD i []) c = true ∧
      agentObj m P g t next (states.getD i []) c e y = some (q, true) ∧
      (agentDecision m P g t next states i).value = .fin q := by
  obtain ⟨hc, hf, he, hy, hfeas, hval⟩ := (agentDecision_spec m P g t next states i hi).2.2 hfin
  exact ⟨_, hc, _, he, _, hy, _, rfl, hf, feasibleOf_eq_true hfeas, hval⟩

#print axioms agentDecision_spec

theorem agentDecision_states (m : Model) (P : Params) (g : Groups) (t : Nat)
    (next : Option (Tensor Ext × List (List (Name × Rat)))) (states : List (List (Name × Rat))) (i : Nat) :
    (agentDecision m P g t next states i).states = states.getD i [] := rfl

end Lcm
