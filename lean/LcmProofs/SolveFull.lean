import LcmProofs.SolveLoop
import LcmProofs.SolvePeriod
import LcmModel.Spec
namespace Lcm

-- No proof from here on looks inside `groups m`, and a `whnf` that reaches it is slow (`variableInfo`, recursion on fuel).
-- The unifier gets there on its own: an indexed list in a statement (`(feasOf m P t)[k]`, `(feasStates …)[k]`) runs
-- `get_elem_tactic`, whose `assumption` tries `k < _ =?= InBounds (sizes (groups m).dS) dIdx` for the hypotheses after `hk`
-- (seconds per occurrence). Hence, here and in the proof and property files that state such entries:
attribute [local irreducible] groups

/-! R1 assembled: every entry of every array returned by the executable `solve` is the maximum of
the period objective over the admissible grid choices, the objective of period `t` being built from
the array `solve` returned for period `t+1` (none in the last period). -/

/-- the continuation `solve` hands to period `t`: the array of period `t+1` together with the
feasible restricted states of period `t+1` (repair F1), nothing in the last period -/
def nextOf (m : Model) (P : Params) (V : List (Tensor Ext)) (t : Nat) :
    Option (Tensor Ext × List (List (Name × Rat))) :=
  if t + 1 < m.nPeriods then
    some (V.getD (t + 1) default, (mkSpace m P (groups m) (t + 1)).feas)
  else none

theorem nextOf_last {m : Model} (P : Params) {V : List (Tensor Ext)} {t : Nat} (ht : m.nPeriods ≤ t + 1) :
    nextOf m P V t = none :=
  if_neg (Nat.not_lt.mpr ht)

theorem nextOf_of_lt {m : Model} (P : Params) {V : List (Tensor Ext)} {t : Nat} (ht : t + 1 < m.nPeriods) :
    nextOf m P V t = some (V.getD (t + 1) default, (mkSpace m P (groups m) (t + 1)).feas) :=
  if_pos ht

/-- **the backward recursion of `solve`**: the array of period `t` is `solvePeriod` applied to the
space of period `t` and the array of period `t+1` -/
theorem solve_getD (m : Model) (P : Params) (t : Nat) (ht : t < m.nPeriods) :
    (solve m P true).getD t default
      = solvePeriod m P (groups m) t (mkSpace m P (groups m) t) (nextOf m P (solve m P true) t) := by
  -- one iteration of the loop at period `t` (`bw_eq_iteration`), started from what `nextOf` reads off the returned list
  rw [solve_getD_eq_bw P true ht, ← congrArg Prod.fst (bw_eq_iteration P true ht)]
  by_cases h : t + 1 < m.nPeriods
  · rw [nextOf_of_lt P h, if_neg (by omega), Option.map_some, if_pos rfl, solve_getD_eq_bw P true h,
      bw_snd, Nat.sub_sub_self (Nat.le_sub_one_of_lt h)]
  · rw [nextOf_last P (by omega), if_pos (by omega)]; rfl

/-- the filter of the stored space of period `t` (`create_filter_mask` with `_period = t`) -/
def spaceFilt (m : Model) (P : Params) (t : Nat) (s c : List (Name × Rat)) : Bool :=
  (allTrue m P (toEnv (s ++ c) ++ periodEnv t)
    (((functionInfo m).filter (·.isFilter)).map (·.name))).getD false

theorem spaceFilt_eq (m : Model) (P : Params) (t : Nat) (s c : List (Name × Rat)) :
    spaceFilt m P t s c = (allTrue m P (toEnv (s ++ c) ++ periodEnv t) (filterNames m)).getD false := rfl

/-- feasible restricted-state combinations of period `t`, row-major in canonical order -/
def feasOf (m : Model) (P : Params) (t : Nat) : List (List (Name × Rat)) :=
  feasStates (assignments (groups m).sS) (assignments (groups m).sC) (spaceFilt m P t)

theorem mem_feasOf {m : Model} {P : Params} {t : Nat} {s : List (Name × Rat)} :
    s ∈ feasOf m P t ↔
      s ∈ assignments (groups m).sS ∧ (assignments (groups m).sC).any (spaceFilt m P t s) = true :=
  List.mem_filter

/-! `mkSpace` as a whole and by its three fields, for a variable `g`: at `groups m` the `rfl` would evaluate it first. -/
theorem mkSpace_eq (m : Model) (P : Params) (g : Groups) (t : Nat) :
    mkSpace m P g t = ⟨combos (assignments g.sS) (assignments g.sC) (spaceFilt m P t),
      feasStates (assignments g.sS) (assignments g.sC) (spaceFilt m P t),
      segIdsImpl (assignments g.sS) (assignments g.sC) (spaceFilt m P t)⟩ := rfl

theorem mkSpace_rows (m : Model) (P : Params) (g : Groups) (t : Nat) :
    (mkSpace m P g t).rows = combos (assignments g.sS) (assignments g.sC) (spaceFilt m P t) := rfl
theorem mkSpace_feasStates (m : Model) (P : Params) (g : Groups) (t : Nat) :
    (mkSpace m P g t).feas = feasStates (assignments g.sS) (assignments g.sC) (spaceFilt m P t) := rfl
theorem mkSpace_segIds (m : Model) (P : Params) (g : Groups) (t : Nat) :
    (mkSpace m P g t).segIds = segIdsImpl (assignments g.sS) (assignments g.sC) (spaceFilt m P t) := rfl

theorem mkSpace_feas (m : Model) (P : Params) (t : Nat) :
    (mkSpace m P (groups m) t).feas = feasOf m P t := mkSpace_feasStates m P (groups m) t

theorem solve_entry_isMax_restricted (m : Model) (P : Params) (t : Nat) (ht : t < m.nPeriods)
    (hsparse : (!((groups m).sS.isEmpty && (groups m).sC.isEmpty)) = true)
    (k : Nat) (hk : k < (feasOf m P t).length) (dIdx xIdx : List Nat)
    (hd : InBounds (sizes (groups m).dS) dIdx) (hx : InBounds (sizes (cStateGrids (groups m))) xIdx) :
    let g := groups m
    let next := nextOf m P (solve m P true) t
    IsMaxOver
      (fun x : List (Name × Rat) × (List (Name × Rat) × List (Name × Rat)) =>
        (x.1 ∈ assignments g.sC ∧ spaceFilt m P t ((feasOf m P t)[k]) x.1 = true) ∧
          (x.2.1 ∈ assignments g.dC ∧ (x.2.2 ∈ assignments g.cC ∧
            feasibleOf (objAt m P g t next ((feasOf m P t)[k]) dIdx xIdx x.1 x.2.1 x.2.2) = true)))
      (fun x => valueOf (objAt m P g t next ((feasOf m P t)[k]) dIdx xIdx x.1 x.2.1 x.2.2))
      (((solve m P true).getD t default).get (k :: (dIdx ++ xIdx))) := by
  intro g next
  rw [solve_getD m P t ht]
  exact solvePeriod_isMax m P g t _ next _ _ _ (mkSpace_rows m P g t) (mkSpace_feasStates m P g t)
    (mkSpace_segIds m P g t) hsparse k hk dIdx xIdx hd hx

theorem solve_entry_isMax_unrestricted (m : Model) (P : Params) (t : Nat) (ht : t < m.nPeriods)
    (hdense : (!((groups m).sS.isEmpty && (groups m).sC.isEmpty)) = false)
    (dIdx xIdx : List Nat)
    (hd : InBounds (sizes (groups m).dS) dIdx) (hx : InBounds (sizes (cStateGrids (groups m))) xIdx) :
    let g := groups m
    let next := nextOf m P (solve m P true) t
    IsMaxOver
      (fun x : List (Name × Rat) × List (Name × Rat) =>
        x.1 ∈ assignments g.dC ∧ (x.2 ∈ assignments g.cC ∧
          feasibleOf (objAtDense m P g t next dIdx xIdx x.1 x.2) = true))
      (fun x => valueOf (objAtDense m P g t next dIdx xIdx x.1 x.2))
      (((solve m P true).getD t default).get (dIdx ++ xIdx)) := by
  intro g next
  rw [solve_getD m P t ht]
  exact solvePeriod_isMax_dense m P t (mkSpace m P g t) next hdense hd hx

#print axioms solve_entry_isMax_restricted
#print axioms solve_entry_isMax_unrestricted

theorem solvePeriod_shape (m : Model) (P : Params) (g : Groups) (t : Nat) (sp : Space)
    (next : Option (Tensor Ext × List (List (Name × Rat)))) :
    (solvePeriod m P g t sp next).shape
      = (if !(g.sS.isEmpty && g.sC.isEmpty) then [sp.feas.length] else [])
          ++ sizes g.dS ++ sizes (cStateGrids g) := by
  cases h : !(g.sS.isEmpty && g.sC.isEmpty)
  · rw [solvePeriod_unrestricted m P t sp next h, materialize_shape,
      maxMid_materialize_shape rfl (sizes_length _) (sizes_length _)]
    rfl
  · rw [solvePeriod_restricted m P t sp next h, materialize_shape, segmentMax_shape,
      maxMid_materialize_shape (ccvSparse_shape m P g t sp next) (one_add_dS_length g)
        (sizes_length g.dC)]
    rfl

theorem solve_shape {m : Model} (P : Params) {t : Nat} (ht : t < m.nPeriods) :
    ((solve m P true).getD t default).shape
      = (if !((groups m).sS.isEmpty && (groups m).sC.isEmpty) then [(feasOf m P t).length] else [])
          ++ sizes (groups m).dS ++ sizes (cStateGrids (groups m)) := by
  rw [solve_getD m P t ht, solvePeriod_shape, mkSpace_feas]

#print axioms solve_shape

/-- the arrays `solve` returns are materialised: two of them with the same shape and the same entries in range are equal -/
theorem solve_getD_ext {m m' : Model} {P P' : Params} {t : Nat} (ht : t < m.nPeriods) (ht' : t < m'.nPeriods)
    (hs : ((solve m' P' true).getD t default).shape = ((solve m P true).getD t default).shape)
    (h : ∀ idx, InBounds ((solve m P true).getD t default).shape idx →
      ((solve m' P' true).getD t default).get idx = ((solve m P true).getD t default).get idx) :
    (solve m' P' true).getD t default = (solve m P true).getD t default := by
  rw [solve_getD m P t ht, solve_getD m' P' t ht'] at hs h ⊢
  rw [← solvePeriod_materialize m P, ← solvePeriod_materialize m' P']
  exact materialize_ext hs h

end Lcm
