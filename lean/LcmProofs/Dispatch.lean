import LcmModel.Kwargs
import LcmModel.Kernels
namespace Lcm
variable {α : Type} [Inhabited α]

theorem baseProductmap_cons (f : List (Tensor α) → Tensor α) (p : Nat) (ps : List Nat) :
    baseProductmap f (p :: ps) = vmapAt (baseProductmap f ps) p := by
  simp [baseProductmap, List.foldl_append]

theorem baseProductmap_get (f : List (Tensor α) → Tensor α) (ps is : List Nat)
    (hlen : is.length = ps.length) (args : List (Tensor α)) (rest : List Nat) :
    (baseProductmap f ps args).get (is ++ rest) = (f (setSlices args ps is)).get rest := by
  induction ps generalizing is args with
  | nil =>
    cases is with
    | nil => rfl
    | cons _ _ => cases hlen
  | cons p ps ih =>
    cases is with
    | nil => cases hlen
    | cons i is =>
      rw [baseProductmap_cons]
      simp only [vmapAt, List.cons_append, setSlices]
      exact ih is (Nat.succ.inj hlen) _

theorem spacemapModel_sparse (params : List Name) (f : List (Tensor α) → Tensor α) (dense : List Name)
    {sparse : List Name} (hs : sparse ≠ []) (putDenseFirst : Bool) :
    spacemapModel params f dense sparse putDenseFirst
      = if putDenseFirst then productmapModel params (fun args => vmap1dModel params f sparse args) dense
        else fun args => vmap1dModel params (productmapModel params f dense) sparse args := by
  cases sparse with
  | nil => exact absurd rfl hs
  | cons _ _ => rfl

/-- the three checks of `allow_only_kwargs`: a positional argument, an unexpected keyword, a missing argument -/
theorem allowOnlyKwargs_reject {params : List (String × PKind)} {args : List Int} {kwargs : List (String × Int)}
    (h : (!args.isEmpty) = true ∨ (kwargs.any fun kv => !(params.map (·.1)).contains kv.1) = true ∨
      ((params.map (·.1)).any fun n => !kwargs.any (·.1 == n)) = true) :
    allowOnlyKwargs params args kwargs = .error .valueError := by
  unfold allowOnlyKwargs
  -- the checks in order: one that `h` does not name either raises the same error or is passed
  by_cases h0 : (!args.isEmpty) = true
  · rw [if_pos h0]; rfl
  rw [if_neg h0]
  by_cases h1 : (kwargs.any fun kv => !(params.map (·.1)).contains kv.1) = true
  · rw [if_pos h1]; rfl
  rw [if_neg h1]
  obtain h | h | h := h
  · exact absurd h h0
  · exact absurd h h1
  · rw [if_pos h]; rfl

/-- the two checks of `allow_args`: the number of arguments and (`rep`, the F4 repair) that the keywords are exactly the
parameters left over by the positional arguments -/
theorem allowArgs_reject {params : List (String × PKind)} {args : List Int} {kwargs : List (String × Int)} {rep : Bool}
    (h : (args.length + kwargs.length != (params.map (·.1)).length) = true ∨
      rep = true ∧ (kwargs.all (fun kv => ((params.map (·.1)).drop args.length).contains kv.1) &&
        ((params.map (·.1)).drop args.length).all fun n => kwargs.any (·.1 == n)) = false) :
    allowArgs params args kwargs rep = .error .valueError := by
  unfold allowArgs
  dsimp only
  by_cases hc : (args.length + kwargs.length != (params.map (·.1)).length) = true
  · rw [if_pos hc]; rfl
  · obtain h | ⟨rfl, h⟩ := h
    · exact absurd h hc
    · rw [if_neg hc, if_pos rfl, h]
      rfl

#print axioms baseProductmap_get
end Lcm
