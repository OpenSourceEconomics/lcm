import LcmModel.Basic
import Mathlib.Algebra.Order.Field.Rat
import LcmModel.Scalar
namespace Lcm

/-! The arithmetic of an equally spaced grid `a, a + h, …, b` with `n ≥ 2` points and step `h = (b - a) / (n - 1)`, over any
ordered field: used at `Rat` for linear grids and at `ℝ` (with `log a`, `log b`) for log grids. -/
section Grid
variable {K : Type*} [Field K] [LinearOrder K] [IsStrictOrderedRing K]

theorem natCast_sub_one_pos {n : ℕ} (hn : 2 ≤ n) : (0 : K) < (n : K) - 1 :=
  sub_pos.mpr (Nat.one_lt_cast.mpr hn)

theorem gridStep_pos {a b : K} {n : ℕ} (hab : a < b) (hn : 2 ≤ n) : 0 < (b - a) / ((n : K) - 1) :=
  div_pos (sub_pos.mpr hab) (natCast_sub_one_pos hn)

theorem grid_last {a b : K} {n : ℕ} (hn : 2 ≤ n) : a + ((n : K) - 1) * ((b - a) / ((n : K) - 1)) = b := by
  rw [mul_div_cancel₀ _ (natCast_sub_one_pos hn).ne', add_sub_cancel]

/-- `i` is a position on the grid with first node `a` and step `h`; it need not be an integer -/
theorem le_gridCoord_iff {a h i v : K} (hh : 0 < h) : i ≤ (v - a) / h ↔ a + i * h ≤ v := by
  rw [le_div_iff₀ hh, le_sub_iff_add_le']

theorem gridCoord_lt_iff {a h i v : K} (hh : 0 < h) : (v - a) / h < i ↔ v < a + i * h :=
  lt_iff_lt_of_le_iff_le (le_gridCoord_iff hh)

end Grid

theorem gridCoord_node {K : Type*} [Field K] {a h i : K} (hh : h ≠ 0) : (a + i * h - a) / h = i := by
  rw [add_sub_cancel_left, mul_div_cancel_right₀ _ hh]

theorem linCoord_grid (start stop : Rat) (n i : Nat) (hn : 2 ≤ n) (h : start < stop) :
    linCoord (linGrid start stop n i) start stop n = i :=
  gridCoord_node (gridStep_pos h hn).ne'

#print axioms linCoord_grid

theorem gLinCoord_rat (v a b : Rat) (n : Nat) :
    gLinCoord v a b n = (v - a) / ((b - a) / ((n : Rat) - 1)) := by
  simp [gLinCoord, Scalar.ofInt]

theorem gLinCoord_node (a b : Rat) (n i : Nat) (hn : 2 ≤ n) (h : a < b) :
    gLinCoord (a + (i : Rat) * ((b - a) / ((n : Rat) - 1))) a b n = i := by
  rw [gLinCoord_rat]
  exact gridCoord_node (gridStep_pos h hn).ne'

#print axioms gLinCoord_node
end Lcm
