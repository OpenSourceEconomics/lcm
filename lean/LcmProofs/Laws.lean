import LcmProofs.SolveStep
import Mathlib.Tactic.Ring
import Mathlib.Algebra.BigOperators.Ring.List
namespace Lcm

/-! Algebraic laws of the specification-level Bellman operator (C10, C11). The operator is stated over an
arbitrary finite list of choices `xs`, an admissibility test (all filters and constraints), a utility `u`
and an expected continuation `cont` (`Σ_w P(w)·V̂(next, w)`). No theorem ties `bellmanStep` to `solvePeriod`; the laws of
the executable `solve` are proved on their own (AffineSolve, SolveLaws, Degenerate). -/

/-- one Bellman step at one state: maximum over the admissible choices of `u + β·continuation` -/
def bellmanStep {X : Type} (xs : List X) (adm : X → Bool) (u cont : X → Rat) (β : Rat) : Ext :=
  foldMax ((xs.filter adm).map fun x => Ext.fin (u x + β * cont x))

theorem bellmanStep_isMax {X : Type} (xs : List X) (adm : X → Bool) (u cont : X → Rat) (β : Rat) :
    IsMaxOver (fun x => x ∈ xs ∧ adm x = true) (fun x => u x + β * cont x) (bellmanStep xs adm u cont β) :=
  isMaxOver_filter xs adm _

/-- the step is determined by the set of admissible choices and the maximand on it: how the set is enumerated, how a
restriction is divided between the list and the test, and what the data are at other choices cannot be seen -/
theorem bellmanStep_congr {X : Type} {xs ys : List X} {adm adm' : X → Bool} {u cont u' cont' : X → Rat} {β β' : Rat}
    (hset : ∀ x, (x ∈ xs ∧ adm x = true) ↔ (x ∈ ys ∧ adm' x = true))
    (hobj : ∀ x, x ∈ xs → adm x = true → u x + β * cont x = u' x + β' * cont' x) :
    bellmanStep xs adm u cont β = bellmanStep ys adm' u' cont' β' :=
  ((bellmanStep_isMax xs adm u cont β).congr hset fun x hx => hobj x hx.1 hx.2).unique
    (bellmanStep_isMax ys adm' u' cont' β')

/-- **affine law, one step**: `u ↦ a·u + b` and `continuation ↦ a·continuation + b·k` (what the induction
hypothesis gives, because expectations and interpolation weights sum to one) yields
`V ↦ a·V + b·(1 + β·k)` -/
theorem bellmanStep_affine {X : Type} (xs : List X) (adm : X → Bool) (u cont : X → Rat) (β : Rat)
    {a : Rat} (b k : Rat) (ha : 0 < a) :
    bellmanStep xs adm (fun x => a * u x + b) (fun x => a * cont x + b * k) β
      = Ext.affine a (b * (1 + β * k)) (bellmanStep xs adm u cont β) := by
  unfold bellmanStep
  rw [← foldMax_affine _ ha, List.map_map]
  exact congrArg foldMax (List.map_congr_left fun x _ => congrArg Ext.fin (by ring))

/-- `Σ_{k<n} β^k` by its recursion -/
def geo (β : Rat) : Nat → Rat
  | 0 => 0
  | n + 1 => 1 + β * geo β n

theorem geo_eq_sum (β : Rat) (n : Nat) : geo β n = ((List.range n).map fun k => β ^ k).sum := by
  induction n with
  | zero => simp [geo]
  | succ n ih =>
    rw [geo, ih, List.range_succ_eq_map, List.map_cons, List.sum_cons, List.map_map, pow_zero, ← List.sum_map_mul_left]
    congr 2
    exact List.map_congr_left fun k _ => (pow_succ' β k).symm

theorem bellmanStep_beta_zero {X : Type} (xs : List X) (adm : X → Bool) (u cont cont' : X → Rat) :
    bellmanStep xs adm u cont 0 = bellmanStep xs adm u cont' 0 :=
  bellmanStep_congr (fun _ => Iff.rfl) fun _ _ _ => by rw [zero_mul, zero_mul]

theorem expect_affine_weighted {w v : List Rat} (a c : Rat) (hlen : w.length = v.length) :
    ((w.zip v).map fun p => p.1 * (a * p.2 + c)).sum
      = a * ((w.zip v).map fun p => p.1 * p.2).sum + c * w.sum := by
  induction w generalizing v with
  | nil => simp
  | cons x w ih =>
    cases v with
    | nil => cases hlen
    | cons y v =>
      simp only [List.zip_cons_cons, List.map_cons, List.sum_cons]
      rw [ih (Nat.succ.inj hlen)]
      ring

#print axioms bellmanStep_affine
end Lcm
