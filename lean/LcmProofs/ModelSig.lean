import LcmModel.Solve
namespace Lcm

/-! What `functionInfo`, `ancestors`, `variableInfo`, `groups` and the fuel read of a specification: its states, its
choices, and of every function the name, the argument list and the stochastic mark - never a body, never the horizon. -/

def Func.sig (f : Func) : Name × List Name × Bool := (f.name, f.args, f.stochastic)

structure SameSig (m m' : Model) : Prop where
  states : m'.states = m.states
  choices : m'.choices = m.choices
  funcs : m'.functions.map Func.sig = m.functions.map Func.sig

variable {m m' : Model}

theorem SameSig.length (h : SameSig m m') : m'.functions.length = m.functions.length := by
  simpa using congrArg List.length h.funcs

theorem SameSig.fuel (h : SameSig m m') : m'.fuel = m.fuel := by
  unfold Model.fuel; rw [h.length]

theorem functionInfo_eq_sig (m : Model) : functionInfo m
    = (m.functions.map Func.sig).map fun s =>
        { name := s.1, isFilter := s.1.endsWith "_filter", isConstraint := s.1.endsWith "_constraint"
          isNext := s.1.startsWith "next_" && !s.1.endsWith "_constraint" && !s.1.endsWith "_filter"
          isStochasticNext := s.2.2 } := by
  unfold functionInfo; rw [List.map_map]; rfl

theorem SameSig.functionInfo (h : SameSig m m') : Lcm.functionInfo m' = Lcm.functionInfo m := by
  rw [functionInfo_eq_sig, functionInfo_eq_sig, h.funcs]

theorem ancestorsAux_succ (m : Model) (k : Nat) (n : Name) : ancestorsAux m (k + 1) n
    = match (m.func? n).map (·.args) with
      | none => []
      | some as => as ++ as.flatMap (ancestorsAux m k) := by
  unfold ancestorsAux; cases m.func? n <;> rfl

theorem SameSig.args (h : SameSig m m') (n : Name) : (m'.func? n).map (·.args) = (m.func? n).map (·.args) := by
  have key : ∀ l : List Func,
      (l.find? (·.name == n)).map (·.args) = ((l.map Func.sig).find? (·.1 == n)).map (·.2.1) := fun l => by
    rw [List.find?_map, Option.map_map]; rfl
  unfold Model.func?
  rw [key, key, h.funcs]

theorem ancestorsAux_congr_args (m m' : Model) (h : ∀ n, (m'.func? n).map (·.args) = (m.func? n).map (·.args))
    (fuel : Nat) (n : Name) : ancestorsAux m' fuel n = ancestorsAux m fuel n := by
  induction fuel generalizing n with
  | zero => rfl
  | succ k ih =>
    rw [ancestorsAux_succ, ancestorsAux_succ, h, funext ih]

theorem SameSig.ancestors (h : SameSig m m') (targets : List Name) :
    Lcm.ancestors m' targets = Lcm.ancestors m targets := by
  unfold Lcm.ancestors
  rw [h.length, funext (ancestorsAux_congr_args m m' h.args _)]

theorem SameSig.variableInfo (h : SameSig m m') : Lcm.variableInfo m' = Lcm.variableInfo m := by
  unfold Lcm.variableInfo
  simp only [h.functionInfo, h.ancestors, h.states, h.choices]

theorem SameSig.groups (h : SameSig m m') : Lcm.groups m' = Lcm.groups m := by
  unfold Lcm.groups
  simp only [h.variableInfo, h.states, h.choices]

end Lcm
