import LcmProofs.Frame
import LcmProofs.TwoRuns
import LcmProofs.Objective
import LcmProofs.ModelSig
namespace Lcm

/-! The specification obtained from `m` by rewriting the body of its utility function (`withUtility m F`): nothing else
changes (`SameButUtility`), provided no function takes the *value* of utility as an argument. -/

structure SameButUtility (m m' : Model) (P : Params) : Prop where
  periods : m'.nPeriods = m.nPeriods
  grp : groups m' = groups m
  finfo : functionInfo m' = functionInfo m
  other : ∀ env n, n ≠ "utility" → callF m' P m'.fuel env n = callF m P m.fuel env n
  funcs : ∀ n, n ≠ "utility" → m'.func? n = m.func? n
  /-- no filter, constraint or transition is called `utility` (classification is by suffix / prefix) -/
  names : ∀ fi ∈ functionInfo m, (fi.isConstraint = true ∨ fi.isFilter = true ∨ fi.isNext = true) → fi.name ≠ "utility"

section
variable {m m' : Model} {P : Params}

theorem SameButUtility.call (h : SameButUtility m m' P) (env : Env) {fi : FunctionInfo} (hfi : fi ∈ functionInfo m)
    (hk : fi.isConstraint = true ∨ fi.isFilter = true ∨ fi.isNext = true) :
    callF m' P m'.fuel env fi.name = callF m P m.fuel env fi.name :=
  h.other env _ (h.names fi hfi hk)

theorem SameButUtility.constraints (h : SameButUtility m m' P) (env : Env) :
    allTrue m' P env (constraintNames m') = allTrue m P env (constraintNames m) :=
  allTrue_filter_congr h.finfo fun _ hfi hc => h.call env hfi (.inl hc)

theorem SameButUtility.filters (h : SameButUtility m m' P) (env : Env) :
    allTrue m' P env (((functionInfo m').filter (·.isFilter)).map (·.name))
      = allTrue m P env (((functionInfo m).filter (·.isFilter)).map (·.name)) :=
  allTrue_filter_congr h.finfo fun _ hfi hf => h.call env hfi (.inr (.inl hf))

theorem SameButUtility.contOf (h : SameButUtility m m' P) (g : Groups) (env : Env)
    (nx : Tensor Ext × List (List (Name × Rat))) : contOf m' P g env nx = contOf m P g env nx :=
  contOf_congr_next g nx h.finfo (fun _ hfi hn => h.call env hfi (.inr (.inr hn))) fun fi hfi hn =>
    wrowFn_congr (h.funcs _ (h.names fi hfi (.inr (.inr hn)))) (fun _ _ _ _ => rfl) rfl

theorem SameButUtility.mkSpace (h : SameButUtility m m' P) (g : Groups) (t : Nat) :
    mkSpace m' P g t = mkSpace m P g t :=
  mkSpace_congr fun _ => h.filters _

end

def mapUtilBody (F : Expr → Expr) (f : Func) : Func :=
  if f.name == "utility" then { f with body := F f.body } else f

def withUtility (m : Model) (F : Expr → Expr) : Model := { m with functions := m.functions.map (mapUtilBody F) }

theorem mapUtilBody_sig (F : Expr → Expr) (f : Func) : (mapUtilBody F f).sig = f.sig := by
  unfold mapUtilBody; split <;> rfl

theorem mapUtilBody_other (F : Expr → Expr) (f : Func) (h : f.name ≠ "utility") : mapUtilBody F f = f := by
  unfold mapUtilBody; simp [h]

theorem sameSig_withUtility (m : Model) (F : Expr → Expr) : SameSig m (withUtility m F) where
  states := rfl
  choices := rfl
  funcs := List.map_map.trans (List.map_congr_left fun f _ => mapUtilBody_sig F f)

theorem func?_withU (m : Model) (F : Expr → Expr) (n : Name) :
    (withUtility m F).func? n = (m.func? n).map (mapUtilBody F) := by
  unfold Model.func? withUtility
  rw [List.find?_map]
  congr 2
  funext f
  exact congrArg (· == n) (congrArg (·.1) (mapUtilBody_sig F f))

theorem func?_withU_other (m : Model) (F : Expr → Expr) (n : Name) (hn : n ≠ "utility") :
    (withUtility m F).func? n = m.func? n := by
  rw [func?_withU]
  cases hf : m.func? n with
  | none => rfl
  | some f => rw [Option.map_some, mapUtilBody_other F f (func?_name hf ▸ hn)]

theorem callF_withU_other {m : Model} (F : Expr → Expr) (P : Params) (hno : ∀ f ∈ m.functions, "utility" ∉ f.args)
    (fuel : Nat) (env : Env) {n : Name} (hn : n ≠ "utility") :
    callF (withUtility m F) P fuel env n = callF m P fuel env n :=
  callF_congr (fun x hx => func?_withU_other m F x <| by
      rcases hx with rfl | hx
      · exact hn
      · exact fun h => not_mem_ancestorsAux hno fuel n (h ▸ hx))
    (fun _ _ => rfl) (fun _ _ _ _ _ _ => rfl)

theorem callF_withU_utility {m : Model} {F : Expr → Expr} (P : Params) (hno : ∀ f ∈ m.functions, "utility" ∉ f.args)
    {G : Val → Val} (hF : ∀ body env, (F body).eval env = (body.eval env).map G) (fuel : Nat) (env : Env) :
    callF (withUtility m F) P fuel env "utility" = (callF m P fuel env "utility").map G := by
  cases fuel with
  | zero => rfl
  | succ k =>
    rw [callF_succ, callF_succ, func?_withU]
    cases hf : m.func? "utility" with
    | none => rfl
    | some f =>
      have hb : mapUtilBody F f = { f with body := F f.body } := by
        unfold mapUtilBody; rw [func?_name hf]; rfl
      -- the arguments are other functions, which evaluate alike
      have hargs : f.args.mapM (argVal (withUtility m F) P k env "utility") = f.args.mapM (argVal m P k env "utility") :=
        mapM_congr_option fun x hx => by
          have hxu : x ≠ "utility" := fun h => hno f (List.mem_of_find?_eq_some hf) (h ▸ hx)
          unfold argVal
          rw [func?_withU_other m F x hxu, callF_withU_other F P hno k env hxu]
      simp only [Option.map_some, Option.bind_some, hb, hargs]
      cases f.args.mapM (argVal m P k env "utility") with
      | none => rfl
      | some vals => exact hF _ _

theorem sameButUtility_withUtility {m : Model} (F : Expr → Expr) (P : Params)
    (hno : ∀ f ∈ m.functions, "utility" ∉ f.args)
    (hnames : ∀ fi ∈ functionInfo m, (fi.isConstraint = true ∨ fi.isFilter = true ∨ fi.isNext = true) → fi.name ≠ "utility") :
    SameButUtility m (withUtility m F) P where
  periods := rfl
  grp := (sameSig_withUtility m F).groups
  finfo := (sameSig_withUtility m F).functionInfo
  other := fun env n hn => by rw [(sameSig_withUtility m F).fuel]; exact callF_withU_other F P hno _ env hn
  funcs := func?_withU_other m F
  names := hnames


/-! C01, "an infeasible choice never determines a value", for the executable `solve`, every period: two specifications
that differ only in what `utility` returns where some constraint fails - including "returns nothing", the model's
rendering of the inf / nan the implementation computes there (`Expr.div` by zero) - have the same solution. -/

structure UtilityAgreesOnFeasible (m m' : Model) (P : Params) : Prop extends SameButUtility m m' P where
  util : ∀ env, allTrue m P env (constraintNames m) = some true → utilOf m' P env = utilOf m P env

variable {m m' : Model} {P : Params}

theorem UtilityAgreesOnFeasible.uAndF (h : UtilityAgreesOnFeasible m m' P) (g : Groups) (t : Nat)
    (next : Option (Tensor Ext × List (List (Name × Rat)))) (env0 : Env) :
    ObjRel id (uAndF m' P g t next env0) (uAndF m P g t next env0) := by
  rw [uAndF_eq, uAndF_eq, h.constraints]
  exact ObjRel.bind_flag fun hA => valOf_congr (h.util _ hA) rfl fun nx _ _ => h.contOf g _ nx

theorem UtilityAgreesOnFeasible.solvePeriod (h : UtilityAgreesOnFeasible m m' P) (g : Groups) (t : Nat) (sp : Space)
    (next : Option (Tensor Ext × List (List (Name × Rat)))) :
    solvePeriod m' P g t sp next = solvePeriod m P g t sp next :=
  solvePeriod_congr (h.uAndF g t next) sp

theorem solve_eq_of_utility_agrees_on_feasible (h : UtilityAgreesOnFeasible m m' P) :
    solve m' P true = solve m P true :=
  solve_congr h.periods h.grp (h.mkSpace _) (h.uAndF _)

theorem utilityAgreesOnFeasible_with {m : Model} {F : Expr → Expr} {P : Params}
    (hno : ∀ f ∈ m.functions, "utility" ∉ f.args)
    (hnames : ∀ fi ∈ functionInfo m, (fi.isConstraint = true ∨ fi.isFilter = true ∨ fi.isNext = true) → fi.name ≠ "utility")
    (hutil : ∀ env, allTrue m P env (constraintNames m) = some true → utilOf (withUtility m F) P env = utilOf m P env) :
    UtilityAgreesOnFeasible m (withUtility m F) P :=
  { sameButUtility_withUtility F P hno hnames with util := hutil }

#print axioms solve_eq_of_utility_agrees_on_feasible
#print axioms utilityAgreesOnFeasible_with
end Lcm
