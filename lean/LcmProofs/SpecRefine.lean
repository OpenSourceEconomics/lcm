import LcmProofs.Objective
import LcmProofs.OnGrid
import LcmProofs.SimPeriod
namespace Lcm

/-! Refinement to the specification level (DESIGN §11.11): the value `simulate` reports for an agent - the result
of the arg-max chain over (filter-restricted choices) x (unrestricted discrete choices) x (continuous choices),
each group in canonical order - is the maximum found by *plain enumeration of all declared choices in
declaration order* (`specAgent`, `specV`): no groups, no axes, no segments. -/

/-- the admissible objective selected by the specification from `specQ` -/
def selAdm (o : Option (Rat × Bool)) : Option Rat := match o with | some (q, true) => some q | _ => none

/-- `specQ` in terms of its two ingredients -/
def combineQ (F : Option Bool) (O : Option (Rat × Bool)) : Option (Rat × Bool) :=
  F.bind fun filt => match O with
    | some (q, f) => some (q, filt && f)
    | none => if filt then none else some (0, false)

/-- the specification selects the objective of a choice that passes the filters and the constraints -/
theorem selAdm_combineQ (F : Option Bool) (O : Option (Rat × Bool)) :
    selAdm (combineQ F O) = if F.getD false = true ∧ feasibleOf O = true then some (valueOf O) else none := by
  rcases F with _ | _ | _ <;> rcases O with _ | ⟨q, _ | _⟩ <;> rfl

theorem selAdm_eq_some {o : Option (Rat × Bool)} {q : Rat} (h : selAdm o = some q) : o = some (q, true) := by
  rcases o with _ | ⟨q', _ | _⟩ <;> cases h
  rfl

theorem specQ_eq_combine (m : Model) (P : Params) (g : Groups) (t : Nat)
    (next : Option (Tensor Ext × List (List (Name × Rat)))) (st ch : List (Name × Rat)) :
    specQ m P g t next st ch
      = combineQ (allTrue m P (toEnv (st ++ ch) ++ periodEnv t) (filterNames m)) (uAndF m P g t next (toEnv (st ++ ch))) := rfl

theorem allChoices_keys {m : Model} {ch : List (Name × Rat)} (hch : ch ∈ allChoices m) :
    ch.map (·.1) = m.choices.map (·.1) := by
  rw [assignments_keys hch, List.map_map]; rfl

/-- the declared choices in declaration order and the three choice groups in canonical order list the same combinations up
to rearrangement -/
theorem allChoices_of_groupwise {m : Model} (hnd : ((m.states ++ m.choices).map (·.1)).Nodup) {c e y : List (Name × Rat)}
    (hc : c ∈ assignments (groups m).sC) (he : e ∈ assignments (groups m).dC) (hy : y ∈ assignments (groups m).cC) :
    ∃ ch ∈ allChoices m, ch.Perm (c ++ e ++ y) :=
  assignments_perm _ _ (choices_perm hnd).symm _ <|
    mem_assignments_append.mpr ⟨c ++ e, mem_assignments_append.mpr ⟨c, hc, e, he, rfl⟩, y, hy, rfl⟩

theorem groupwise_of_allChoices {m : Model} (hnd : ((m.states ++ m.choices).map (·.1)).Nodup) {ch : List (Name × Rat)}
    (hch : ch ∈ allChoices m) :
    ∃ c ∈ assignments (groups m).sC, ∃ e ∈ assignments (groups m).dC, ∃ y ∈ assignments (groups m).cC,
      ch.Perm (c ++ e ++ y) := by
  obtain ⟨a, ha, hperm⟩ := assignments_perm _ _ (choices_perm hnd) _ hch
  obtain ⟨ce, hce, y, hy, rfl⟩ := mem_assignments_append.mp ha
  obtain ⟨c, hc, e, he, rfl⟩ := mem_assignments_append.mp hce
  exact ⟨c, hc, e, he, y, hy, hperm.symm⟩

theorem envEq_state_choices {m : Model} {st a b : List (Name × Rat)}
    (hst : (st.map (·.1) ++ m.choices.map (·.1)).Nodup) (ha : (a.map (·.1)).Perm (m.choices.map (·.1)))
    (hab : a.Perm b) : EnvEq (toEnv (st ++ a)) (toEnv (st ++ b)) :=
  envEq_of_perm _ _ (hab.append_left st) <| by
    rw [List.map_append]; exact ((List.Perm.append_left _ ha).nodup_iff).mpr hst

/-- for a declaration-order choice combination `ch` that is a rearrangement of the group-wise combination `(c, e, y)`: the
specification selects `ch` exactly when `simulate` lets `(c, e, y)` pass the agent's filter and finds it feasible, and then
with the agent's objective -/
theorem selAdm_specQ_groupwise {m : Model} {P : Params} {t : Nat}
    (next : Option (Tensor Ext × List (List (Name × Rat)))) {st c e y ch : List (Name × Rat)}
    (hst : (st.map (·.1) ++ m.choices.map (·.1)).Nodup)
    (hc : c ∈ assignments (groups m).sC) (he : e ∈ assignments (groups m).dC) (hy : y ∈ assignments (groups m).cC)
    (hch : ch ∈ allChoices m) (hperm : ch.Perm (c ++ e ++ y))
    (hfs : (groups m).sC.isEmpty = true → allTrue m P (toEnv st ++ periodEnv t) (filterNames m) = some true) :
    selAdm (specQ m P (groups m) t next st ch)
      = if agentFilt m P (groups m) t st c = true ∧ feasibleOf (agentObj m P (groups m) t next st c e y) = true
        then some (valueOf (agentObj m P (groups m) t next st c e y)) else none := by
  have hE : EnvEq (toEnv (st ++ ch)) (toEnv (st ++ c ++ e ++ y)) := by
    simpa only [List.append_assoc] using
      envEq_state_choices hst (.of_eq (allChoices_keys hch)) hperm
  -- the filters do not read the unrestricted choices `e`, `y`
  have hFil : allTrue m P (toEnv (st ++ ch) ++ periodEnv t) (filterNames m)
      = allTrue m P (toEnv (st ++ c) ++ periodEnv t) (filterNames m) := by
    rw [allTrue_congr_env m P (hE.append (EnvEq.refl _))]
    simpa only [List.append_assoc, List.append_nil] using
      allTrue_filters_skip P (st ++ c) (e ++ y) [] (periodEnv t) fun x hmem f hf => by
        rw [List.map_append, assignments_keys he, assignments_keys hy] at hmem
        exact dense_not_read_by_filters (.inr (List.mem_append.mp hmem)) hf
  -- without a restricted choice `simulate` applies no filter, and `c = []`: the filters hold at the state by `hfs`
  have hF : agentFilt m P (groups m) t st c
      = (allTrue m P (toEnv (st ++ c) ++ periodEnv t) (filterNames m)).getD false := by
    cases hsC : (groups m).sC.isEmpty with
    | true =>
      obtain rfl := (mem_assignments_of_isEmpty hsC).mp hc
      rw [agentFilt_of_isEmpty hsC, List.append_nil, hfs hsC]; rfl
    | false => exact agentFilt_eq_spaceFilt hsC
  rw [specQ_eq_combine, uAndF_congr_env m P (groups m) t next hE, hFil, hF]
  exact selAdm_combineQ _ _

theorem specV_eq_best (m : Model) (P : Params) (g : Groups) (t : Nat)
    (next : Option (Tensor Ext × List (List (Name × Rat)))) (st ch : List (Name × Rat)) :
    specV m P g t next st = (specAgent m P g t next st ch).best := by
  show _ = foldMax (((((allChoices m).map fun c => specQ m P g t next st c).filterMap _)).map Ext.fin)
  rw [List.filterMap_map]
  rfl

/-- R2 at the specification level; what is claimed and why each hypothesis is there: `C02_value_is_plain_enumeration_max` -/
theorem specAgent_best_eq_value (m : Model) (P : Params) (t : Nat)
    (next : Option (Tensor Ext × List (List (Name × Rat)))) (states : List (List (Name × Rat)))
    (i : Nat) (hi : i < states.length)
    (hnd : ((m.states ++ m.choices).map (·.1)).Nodup)
    (hst : ((states.getD i []).map (·.1) ++ m.choices.map (·.1)).Nodup)
    (hfs : (groups m).sC.isEmpty = true →
      allTrue m P (toEnv (states.getD i []) ++ periodEnv t) (filterNames m) = some true)
    (chRep : List (Name × Rat)) :
    (specAgent m P (groups m) t next (states.getD i []) chRep).best
      = (agentDecision m P (groups m) t next states i).value := by
  have hR2 := (agentDecision_spec m P (groups m) t next states i hi).2.1
  rw [← specV_eq_best]
  have hS := foldMax_isMaxOver (allChoices m) (fun c => selAdm (specQ m P (groups m) t next (states.getD i []) c))
  refine hS.unique (hR2.transfer ?_ ?_)
  · -- every group-wise combination has a declaration-order rearrangement
    rintro ⟨c, e, y⟩ ⟨⟨hc, hf⟩, he, hy, hfeas⟩
    obtain ⟨ch, hch, hperm⟩ := allChoices_of_groupwise hnd hc he hy
    have hsel := selAdm_specQ_groupwise next hst hc he hy hch hperm hfs
    rw [if_pos ⟨hf, hfeas⟩] at hsel
    exact ⟨ch, ⟨hch, by rw [hsel]; rfl⟩, by rw [hsel]; rfl⟩
  · -- every declaration-order combination is a rearrangement of a group-wise one
    rintro ch ⟨hch, hsome⟩
    obtain ⟨c, hc, e, he, y, hy, hperm⟩ := groupwise_of_allChoices hnd hch
    have hsel := selAdm_specQ_groupwise next hst hc he hy hch hperm hfs
    split at hsel
    · next hadm => exact ⟨(c, e, y), ⟨⟨hc, hadm.1⟩, he, hy, hadm.2⟩, by rw [hsel]; rfl⟩
    · rw [hsel] at hsome; cases hsome

#print axioms specAgent_best_eq_value

end Lcm
