import LcmModel.Solve
import LcmProofs.Tensor
import LcmProofs.SolveStep
namespace Lcm

/-! R1 for one period on the executable model `solvePeriod`. An entry is computed as the nested fold that R1 for arbitrary
types and grids speaks of (`solvePeriod_get_sparse`, `solvePeriod_get_dense`: over the stored rows of the state, the dense
choice block and the continuous grid), with the value and the flag of `uAndF` as objective and constraint (`ccvEnv_eq`);
what it is the maximum of is then `denseSeg_isMax` / `denseMaxAt_isMax` of SolveStep.lean. -/

theorem pickAt_cons (p : Name × List Rat) (rest : List (Name × List Rat)) (i : Nat) (j : List Nat) :
    pickAt (p :: rest) (i :: j) = (p.1, p.2.getD i 0) :: pickAt rest j := rfl

theorem allIdx_pickAt (l : List (Name × List Rat)) :
    (allIdx (sizes l)).map (pickAt l) = assignments l := by
  induction l with
  | nil => rfl
  | cons p rest ih =>
    obtain ⟨x, g⟩ := p
    -- the outer loop of `assignments` runs over the grid points, that of `allIdx` over their positions
    rw [assignments, ← ih, List.flatMap_def, ← range_map_getD g 0, ← List.flatMap_def]
    simp only [sizes, List.map_cons, allIdx, List.map_flatMap, List.map_map, Function.comp_def, pickAt_cons]

theorem sizes_length (l : List (Name × List Rat)) : (sizes l).length = l.length := by simp [sizes]

theorem inBounds_sizes_length {l : List (Name × List Rat)} {i : List Nat} (h : InBounds (sizes l) i) :
    i.length = l.length := by
  rw [inBounds_length h, sizes_length]

theorem maxMid_materialize_get {t : Tensor Ext} {a b c : List Nat} (ia ic : List Nat) {k n : Nat}
    (hs : t.shape = a ++ b ++ c) (hk : a.length = k) (hn : b.length = n)
    (ha : InBounds a ia) (hc : InBounds c ic) :
    (t.materialize.maxMid k n).get (ia ++ ic)
      = foldMax ((allIdx b).map fun j => t.get (ia ++ j ++ ic)) := by
  subst hk hn
  have hal := inBounds_length ha
  rw [maxMid_get, show t.materialize.shape = a ++ b ++ c from hs, List.append_assoc,
    List.drop_left, List.take_left, List.take_left' hal, List.drop_left' hal]
  congr 1
  apply List.map_congr_left
  intro j hj
  exact materialize_get t _ (hs ▸ inBounds_append
    (inBounds_append ha (mem_allIdx_inBounds hj)) hc)

theorem maxMid_materialize_shape {t : Tensor Ext} {a b c : List Nat} {k n : Nat}
    (hs : t.shape = a ++ b ++ c) (hk : a.length = k) (hn : b.length = n) :
    (t.materialize.maxMid k n).shape = a ++ c := by
  subst hk hn
  show List.take _ t.shape ++ List.drop _ t.shape = _
  rw [hs, List.append_assoc, List.take_left, ← List.drop_drop, List.drop_left, List.drop_left]

theorem denseEnv_append {g : Groups} {dIdx j : List Nat} (xIdx : List Nat) (hd : dIdx.length = g.dS.length)
    (hj : j.length = g.dC.length) :
    denseEnv g (dIdx ++ j ++ xIdx)
      = toEnv (pickAt g.dS dIdx ++ pickAt g.dC j ++ pickAt (cStateGrids g) xIdx) := by
  simp only [denseEnv, List.append_assoc]
  rw [List.take_left' hd, List.drop_left' hd, List.take_left' hj, ← List.drop_drop,
    List.drop_left' hd, List.drop_left' hj]

/-- `env0`: the environment of the restricted part (`[]` without restricted variables) -/
theorem denseBlock_eq (m : Model) (P : Params) {g : Groups} (t : Nat)
    (next : Option (Tensor Ext × List (List (Name × Rat)))) (env0 : Env) {dIdx : List Nat} (xIdx : List Nat)
    (hd : InBounds (sizes g.dS) dIdx) :
    foldMax ((allIdx (sizes g.dC)).map fun j => ccvEnv m P g t next (env0 ++ denseEnv g (dIdx ++ j ++ xIdx)))
      = foldMax ((assignments g.dC).map fun e =>
          ccvEnv m P g t next (env0 ++ toEnv (pickAt g.dS dIdx ++ e ++ pickAt (cStateGrids g) xIdx))) := by
  rw [← allIdx_pickAt g.dC, List.map_map]
  refine congrArg foldMax (List.map_congr_left fun j hj => ?_)
  exact congrArg (fun e => ccvEnv m P g t next (env0 ++ e))
    (denseEnv_append xIdx (inBounds_sizes_length hd)
      (inBounds_sizes_length (mem_allIdx_inBounds hj)))

/-- under the mask the entries are finite: the continuous problem is the masked max of the value `valueOf` of the
objective under its flag `feasibleOf`, the form of `ccvAt` -/
theorem ccvEnv_eq (m : Model) (P : Params) (g : Groups) (t : Nat)
    (next : Option (Tensor Ext × List (List (Name × Rat)))) (env : Env) :
    ccvEnv m P g t next env
      = maskedMax ((assignments g.cC).map fun y => Ext.fin (valueOf (uAndF m P g t next (env ++ toEnv y))))
          ((assignments g.cC).map fun y => feasibleOf (uAndF m P g t next (env ++ toEnv y))) :=
  maskedMax_map_congr fun y _ hy => by
    cases h : uAndF m P g t next (env ++ toEnv y) with
    | none => rw [h] at hy; cases hy
    | some p => rfl

theorem solvePeriod_restricted (m : Model) (P : Params) {g : Groups} (t : Nat) (sp : Space)
    (next : Option (Tensor Ext × List (List (Name × Rat)))) (h : (!(g.sS.isEmpty && g.sC.isEmpty)) = true) :
    solvePeriod m P g t sp next
      = (((ccvSparse m P g t sp next).materialize.maxMid (1 + g.dS.length) g.dC.length).segmentMax sp.segIds
          sp.feas.length).materialize :=
  if_pos h

theorem solvePeriod_unrestricted (m : Model) (P : Params) {g : Groups} (t : Nat) (sp : Space)
    (next : Option (Tensor Ext × List (List (Name × Rat)))) (h : (!(g.sS.isEmpty && g.sC.isEmpty)) = false) :
    solvePeriod m P g t sp next = ((ccvDense m P g t next).materialize.maxMid g.dS.length g.dC.length).materialize :=
  if_neg (ne_true_of_eq_false h)

theorem ccvSparse_shape (m : Model) (P : Params) (g : Groups) (t : Nat) (sp : Space)
    (next : Option (Tensor Ext × List (List (Name × Rat)))) :
    (ccvSparse m P g t sp next).shape
      = (sp.rows.length :: sizes g.dS) ++ sizes g.dC ++ sizes (cStateGrids g) := rfl

theorem one_add_dS_length (g : Groups) {n : Nat} : (n :: sizes g.dS).length = 1 + g.dS.length := by
  rw [List.length_cons, sizes_length, Nat.add_comm]

/-- restricted-variable case: the entry at `(k, dIdx, xIdx)` is the max, over the
filter-passing restricted choices of the `k`-th feasible restricted state and over the unrestricted discrete
choices, of the continuous problem at that state, those choices and the addressed dense / continuous grid state. -/
theorem solvePeriod_get_sparse (m : Model) (P : Params) {g : Groups} (t : Nat) {sp : Space}
    (next : Option (Tensor Ext × List (List (Name × Rat))))
    {ss sc : List (List (Name × Rat))} {filt : List (Name × Rat) → List (Name × Rat) → Bool}
    (hrows : sp.rows = combos ss sc filt) (hfeas : sp.feas = feasStates ss sc filt)
    (hseg : sp.segIds = segIdsImpl ss sc filt)
    (hsparse : (!(g.sS.isEmpty && g.sC.isEmpty)) = true)
    {k : Nat} (hk : k < (feasStates ss sc filt).length) {dIdx xIdx : List Nat}
    (hd : InBounds (sizes g.dS) dIdx) (hx : InBounds (sizes (cStateGrids g)) xIdx) :
    (solvePeriod m P g t sp next).get (k :: (dIdx ++ xIdx))
      = foldMax ((sc.filter (filt ((feasStates ss sc filt)[k]'hk))).map fun c =>
          foldMax ((assignments g.dC).map fun e =>
            ccvEnv m P g t next (toEnv ((feasStates ss sc filt)[k]'hk ++ c)
              ++ toEnv (pickAt g.dS dIdx ++ e ++ pickAt (cStateGrids g) xIdx)))) := by
  have hshape := maxMid_materialize_shape (ccvSparse_shape m P g t sp next)
    (one_add_dS_length g) (sizes_length g.dC)
  -- the index is in range, so the outer `materialize` disappears; then the segment max by its equation
  rw [solvePeriod_restricted m P t sp next hsparse, materialize_get _ _ (by
    rw [segmentMax_shape, hshape]
    exact ⟨hfeas ▸ hk, inBounds_append hd hx⟩), segmentMax_get]
  refine Eq.trans ?_ (segMaxAt_combos ss sc filt (fun row => foldMax ((assignments g.dC).map fun e =>
    ccvEnv m P g t next (toEnv (row.1 ++ row.2)
      ++ toEnv (pickAt g.dS dIdx ++ e ++ pickAt (cStateGrids g) xIdx)))) k hk)
  -- the row values, read by position, are a `map` over the stored rows `combos ss sc filt`
  rw [hshape, hseg, List.cons_append, List.headD_cons, hrows, ← range_map_getD (combos ss sc filt) ([], [])]
  congr 1
  apply List.map_congr_left
  intro r hr
  -- each row value is the `maxMid` over the dense choice block of the ccv tensor
  rw [← denseBlock_eq m P t next _ xIdx hd]
  exact hrows ▸ maxMid_materialize_get (r :: dIdx) xIdx (ccvSparse_shape m P g t sp next)
    (one_add_dS_length g) (sizes_length g.dC)
    ⟨hrows ▸ List.mem_range.mp hr, hd⟩ hx

theorem solvePeriod_get_dense (m : Model) (P : Params) {g : Groups} (t : Nat) (sp : Space)
    (next : Option (Tensor Ext × List (List (Name × Rat))))
    (hdense : (!(g.sS.isEmpty && g.sC.isEmpty)) = false)
    {dIdx xIdx : List Nat}
    (hd : InBounds (sizes g.dS) dIdx) (hx : InBounds (sizes (cStateGrids g)) xIdx) :
    (solvePeriod m P g t sp next).get (dIdx ++ xIdx)
      = foldMax ((assignments g.dC).map fun e =>
          ccvEnv m P g t next (toEnv (pickAt g.dS dIdx ++ e ++ pickAt (cStateGrids g) xIdx))) := by
  have hs : (ccvDense m P g t next).shape = sizes g.dS ++ sizes g.dC ++ sizes (cStateGrids g) := rfl
  rw [solvePeriod_unrestricted m P t sp next hdense, materialize_get _ _ (by
    rw [maxMid_materialize_shape hs (sizes_length _) (sizes_length _)]
    exact inBounds_append hd hx),
    maxMid_materialize_get dIdx xIdx hs (sizes_length _) (sizes_length _) hd hx]
  exact denseBlock_eq m P t next [] xIdx hd

/-- the objective-and-feasibility evaluation the executable model performs for the state addressed
by `(s, dIdx, xIdx)` and the choice `(c, e, y)` -/
def objAt (m : Model) (P : Params) (g : Groups) (t : Nat)
    (next : Option (Tensor Ext × List (List (Name × Rat)))) (s : List (Name × Rat)) (dIdx xIdx : List Nat)
    (c e y : List (Name × Rat)) : Option (Rat × Bool) :=
  uAndF m P g t next (toEnv (s ++ c) ++ toEnv (pickAt g.dS dIdx ++ e ++ pickAt (cStateGrids g) xIdx) ++ toEnv y)

/-- objective-and-feasibility evaluation for the dense state addressed by `(dIdx, xIdx)` -/
def objAtDense (m : Model) (P : Params) (g : Groups) (t : Nat)
    (next : Option (Tensor Ext × List (List (Name × Rat)))) (dIdx xIdx : List Nat)
    (e y : List (Name × Rat)) : Option (Rat × Bool) :=
  uAndF m P g t next (toEnv (pickAt g.dS dIdx ++ e ++ pickAt (cStateGrids g) xIdx) ++ toEnv y)

/-- **R1 for one period on the executable model** (restricted-variable case): the entry of the
array returned by `solvePeriod` for the `k`-th feasible restricted state, dense discrete state
`dIdx` and continuous grid node `xIdx` is the maximum of the objective over all grid choice
combinations (restricted `c`, unrestricted discrete `e`, continuous `y`) that pass the filter and
for which the model's `uAndF` reports feasibility — −inf iff there is none. -/
theorem solvePeriod_isMax (m : Model) (P : Params) (g : Groups) (t : Nat) (sp : Space)
    (next : Option (Tensor Ext × List (List (Name × Rat))))
    (ss sc : List (List (Name × Rat))) (filt : List (Name × Rat) → List (Name × Rat) → Bool)
    (hrows : sp.rows = combos ss sc filt) (hfeas : sp.feas = feasStates ss sc filt)
    (hseg : sp.segIds = segIdsImpl ss sc filt)
    (hsparse : (!(g.sS.isEmpty && g.sC.isEmpty)) = true)
    (k : Nat) (hk : k < (feasStates ss sc filt).length) (dIdx xIdx : List Nat)
    (hd : InBounds (sizes g.dS) dIdx) (hx : InBounds (sizes (cStateGrids g)) xIdx) :
    IsMaxOver
      (fun x : List (Name × Rat) × (List (Name × Rat) × List (Name × Rat)) =>
        (x.1 ∈ sc ∧ filt ((feasStates ss sc filt)[k]) x.1 = true) ∧
          (x.2.1 ∈ assignments g.dC ∧ (x.2.2 ∈ assignments g.cC ∧
            feasibleOf (objAt m P g t next ((feasStates ss sc filt)[k]) dIdx xIdx x.1 x.2.1 x.2.2) = true)))
      (fun x => valueOf (objAt m P g t next ((feasStates ss sc filt)[k]) dIdx xIdx x.1 x.2.1 x.2.2))
      ((solvePeriod m P g t sp next).get (k :: (dIdx ++ xIdx))) := by
  rw [solvePeriod_get_sparse m P t next hrows hfeas hseg hsparse hk hd hx]
  simp only [ccvEnv_eq]
  exact denseSeg_isMax sc (assignments g.dC) (assignments g.cC) filt
    (fun s c e y => valueOf (objAt m P g t next s dIdx xIdx c e y))
    (fun s c e y => feasibleOf (objAt m P g t next s dIdx xIdx c e y)) _

/-- **R1 for one period, no restricted variables**: the entry at `(dIdx, xIdx)` is the maximum of the
objective over all (unrestricted discrete `e`, continuous `y`) grid choices for which `uAndF` reports
feasibility; −inf iff there is none -/
theorem solvePeriod_isMax_dense (m : Model) (P : Params) {g : Groups} (t : Nat) (sp : Space)
    (next : Option (Tensor Ext × List (List (Name × Rat))))
    (hdense : (!(g.sS.isEmpty && g.sC.isEmpty)) = false)
    {dIdx xIdx : List Nat}
    (hd : InBounds (sizes g.dS) dIdx) (hx : InBounds (sizes (cStateGrids g)) xIdx) :
    IsMaxOver
      (fun x : List (Name × Rat) × List (Name × Rat) =>
        x.1 ∈ assignments g.dC ∧ (x.2 ∈ assignments g.cC ∧
          feasibleOf (objAtDense m P g t next dIdx xIdx x.1 x.2) = true))
      (fun x => valueOf (objAtDense m P g t next dIdx xIdx x.1 x.2))
      ((solvePeriod m P g t sp next).get (dIdx ++ xIdx)) := by
  rw [solvePeriod_get_dense m P t sp next hdense hd hx]
  simp only [ccvEnv_eq]
  exact denseMaxAt_isMax (assignments g.dC) (assignments g.cC)
    (fun (_ _ : Unit) e y => valueOf (objAtDense m P g t next dIdx xIdx e y))
    (fun _ _ e y => feasibleOf (objAtDense m P g t next dIdx xIdx e y)) () ()

theorem solvePeriod_materialize (m : Model) (P : Params) (g : Groups) (t : Nat) (sp : Space)
    (next : Option (Tensor Ext × List (List (Name × Rat)))) :
    (solvePeriod m P g t sp next).materialize = solvePeriod m P g t sp next := by
  unfold solvePeriod
  split <;> exact materialize_materialize _

#print axioms allIdx_pickAt
#print axioms solvePeriod_get_sparse
#print axioms solvePeriod_isMax
#print axioms solvePeriod_isMax_dense

end Lcm
