import Mathlib.Analysis.SpecialFunctions.Log.Basic

open Real Finset

namespace Lcm

variable {n : ℕ}

noncomputable def lse (s : ℝ) (v : Fin n → ℝ) : ℝ := s * log (∑ i, exp (v i / s))

/-- the max-shifted form computed by `_segment_logsumexp` (after the division by the scale) -/
noncomputable def lseStable (s : ℝ) (v : Fin n → ℝ) (m : ℝ) : ℝ :=
  m + s * log (∑ i, exp ((v i - m) / s))

theorem lseStable_eq_lse {s : ℝ} (hs : 0 < s) (v : Fin n → ℝ) (m : ℝ) (hn : 0 < n) :
    lseStable s v m = lse s v := by
  unfold lseStable lse
  have hpos : 0 < ∑ i : Fin n, exp ((v i - m) / s) :=
    Finset.sum_pos (fun i _ => exp_pos _) ⟨⟨0, hn⟩, Finset.mem_univ _⟩
  have : ∑ i : Fin n, exp (v i / s) = exp (m / s) * ∑ i : Fin n, exp ((v i - m) / s) := by
    rw [Finset.mul_sum]
    refine Finset.sum_congr rfl (fun i _ => ?_)
    rw [← exp_add]; congr 1; ring
  rw [this, log_mul (exp_pos _).ne' hpos.ne', log_exp, mul_add, mul_div_cancel₀ _ hs.ne']

/-- why the stable form cannot overflow, and all that the bounds need -/
theorem shifted_sum_mem {s : ℝ} (hs : 0 < s) {v : Fin n → ℝ} {m : ℝ}
    (hmax : ∀ i, v i ≤ m) (hatt : ∃ i, v i = m) :
    (∀ i, (v i - m) / s ≤ 0 ∧ 0 < exp ((v i - m) / s) ∧ exp ((v i - m) / s) ≤ 1) ∧
      1 ≤ ∑ i : Fin n, exp ((v i - m) / s) ∧ ∑ i : Fin n, exp ((v i - m) / s) ≤ n := by
  have hle : ∀ i, (v i - m) / s ≤ 0 := fun i =>
    div_nonpos_of_nonpos_of_nonneg (sub_nonpos.mpr (hmax i)) hs.le
  refine ⟨fun i => ⟨hle i, exp_pos _, exp_le_one_iff.mpr (hle i)⟩, ?_, ?_⟩
  · obtain ⟨i0, hi0⟩ := hatt
    calc (1 : ℝ) = exp ((v i0 - m) / s) := by rw [hi0, sub_self, zero_div, exp_zero]
      _ ≤ ∑ i : Fin n, exp ((v i - m) / s) :=
        Finset.single_le_sum (f := fun i => exp ((v i - m) / s)) (fun i _ => (exp_pos _).le) (Finset.mem_univ i0)
  · calc ∑ i : Fin n, exp ((v i - m) / s) ≤ ∑ _i : Fin n, (1 : ℝ) :=
        Finset.sum_le_sum fun i _ => exp_le_one_iff.mpr (hle i)
      _ = n := by rw [Finset.sum_const, Finset.card_univ, Fintype.card_fin, nsmul_eq_mul, mul_one]

theorem lseStable_bounds {s : ℝ} (hs : 0 < s) {v : Fin n → ℝ} {m : ℝ}
    (hmax : ∀ i, v i ≤ m) (hatt : ∃ i, v i = m) :
    m ≤ lseStable s v m ∧ lseStable s v m ≤ m + s * log n := by
  obtain ⟨_, h1, hn⟩ := shifted_sum_mem hs hmax hatt
  exact ⟨le_add_of_nonneg_right (mul_nonneg hs.le (log_nonneg h1)),
    add_le_add_right (mul_le_mul_of_nonneg_left (log_le_log (one_pos.trans_le h1) hn) hs.le) m⟩

theorem lse_bounds {s : ℝ} (hs : 0 < s) {v : Fin n → ℝ} {m : ℝ} (hn : 0 < n)
    (hmax : ∀ i, v i ≤ m) (hatt : ∃ i, v i = m) :
    m ≤ lse s v ∧ lse s v ≤ m + s * log n := by
  rw [← lseStable_eq_lse hs v m hn]
  exact lseStable_bounds hs hmax hatt

theorem lse_shift {s : ℝ} (hs : 0 < s) (v : Fin n → ℝ) (c : ℝ) (hn : 0 < n) :
    lse s (fun i => v i + c) = lse s v + c := by
  -- the stable form with the shift `m := c`: the shifted values minus `c` are `v` again
  rw [← lseStable_eq_lse hs _ c hn]
  unfold lseStable lse
  simp only [add_sub_cancel_right]
  ring

open Filter Topology in
theorem lse_tendsto_max {v : Fin n → ℝ} {m : ℝ} (hn : 0 < n)
    (hmax : ∀ i, v i ≤ m) (hatt : ∃ i, v i = m) :
    Tendsto (fun s => lse s v) (𝓝[>] 0) (𝓝 m) := by
  have hb : ∀ᶠ s in 𝓝[>] (0 : ℝ), m ≤ lse s v ∧ lse s v ≤ m + s * log n := by
    filter_upwards [self_mem_nhdsWithin] with s hs using lse_bounds hs hn hmax hatt
  have hlim : Tendsto (fun s : ℝ => m + s * log n) (𝓝[>] 0) (𝓝 m) :=
    (Continuous.tendsto' (f := fun s : ℝ => m + s * log n) (continuous_const.add (continuous_id.mul continuous_const))
      0 m (by rw [zero_mul, add_zero])).mono_left nhdsWithin_le_nhds
  exact tendsto_of_tendsto_of_tendsto_of_le_of_le' tendsto_const_nhds hlim (hb.mono fun _ h => h.1)
    (hb.mono fun _ h => h.2)

#print axioms lse_tendsto_max
#print axioms lseStable_bounds
#print axioms lse_shift
end Lcm
