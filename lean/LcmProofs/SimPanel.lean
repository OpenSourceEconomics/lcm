import LcmProofs.SimLoop
import LcmProofs.SimPeriod
namespace Lcm

/-! Batch structure of the executable `simulate`: every period has one record per agent, the panel is period-major,
the decision of an agent depends on its own state only and - without stochastic transitions - so does its whole
path (C08). -/

theorem periodOut_fst_length (m : Model) (P : Params) (V : List (Tensor Ext)) (draws : Draws) (t : Nat)
    (states : List (List (Name × Rat))) : (periodOut m P V draws t states).1.length = states.length :=
  (List.length_map _).trans List.length_range

theorem periodOut_snd_length (m : Model) (P : Params) (V : List (Tensor Ext)) (draws : Draws) (t : Nat)
    (states : List (List (Name × Rat))) : (periodOut m P V draws t states).2.length = states.length :=
  (List.length_map _).trans List.length_range

theorem rekey_length (m : Model) (nxt : List (List (Name × Rat))) : (rekey m nxt).length = nxt.length :=
  List.length_map _

theorem statesAt_length (m : Model) (P : Params) (V : List (Tensor Ext)) (init : List (List (Name × Rat)))
    (draws : Draws) (t : Nat) : (statesAt m P V init draws t).length = init.length := by
  induction t with
  | zero => rfl
  | succ t ih => rw [statesAt_succ, rekey_length, periodOut_snd_length, ih]

theorem records_length (m : Model) (P : Params) (V : List (Tensor Ext)) (init : List (List (Name × Rat)))
    (draws : Draws) (t : Nat) :
    (periodOut m P V draws t (statesAt m P V init draws t)).1.length = init.length := by
  rw [periodOut_fst_length, statesAt_length]

theorem simulate_period_length {m : Model} (P : Params) (V : List (Tensor Ext))
    (init : List (List (Name × Rat))) (draws : Draws) {t : Nat} (ht : t < m.nPeriods) :
    ((simulate m P V init draws true).getD t []).length = init.length := by
  rw [simulate_getD m P V init draws t ht, records_length]

theorem simulate_record {m : Model} (P : Params) (V : List (Tensor Ext))
    {init : List (List (Name × Rat))} (draws : Draws) {t i : Nat} (ht : t < m.nPeriods) (hi : i < init.length) :
    ((simulate m P V init draws true).getD t []).getD i default
      = agentDecision m P (groups m) t (simNext m P V t) (statesAt m P V init draws t) i := by
  rw [simulate_getD m P V init draws t ht]
  exact periodOut_record_getD m P V draws t (by rw [statesAt_length]; exact hi)

theorem statesAt_succ_getD (m : Model) (P : Params) (V : List (Tensor Ext)) {init : List (List (Name × Rat))}
    (draws : Draws) (t : Nat) {i : Nat} (hi : i < init.length) :
    (statesAt m P V init draws (t + 1)).getD i []
      = m.states.map fun s =>
          (s.1, ((((periodOut m P V draws t (statesAt m P V init draws t)).2.getD i []).find? (·.1 == s.1)).map (·.2)).getD 0) := by
  rw [statesAt_succ]
  exact rekey_getD m (by rw [periodOut_snd_length, statesAt_length]; exact hi)

/-- `_process_simulated_data`: the panel is the concatenation of the periods -/
def panel (results : List (List Record)) : List Record := results.flatten

theorem panel_length (m : Model) (P : Params) (V : List (Tensor Ext)) (init : List (List (Name × Rat)))
    (draws : Draws) : (panel (simulate m P V init draws true)).length = m.nPeriods * init.length := by
  unfold panel
  rw [simulate_eq_map, ← List.flatMap_def]
  exact length_flatMap_blocks (records_length m P V init draws) _

theorem panel_row (m : Model) (P : Params) (V : List (Tensor Ext)) (init : List (List (Name × Rat)))
    (draws : Draws) (t i : Nat) (ht : t < m.nPeriods) (hi : i < init.length) :
    (panel (simulate m P V init draws true))[t * init.length + i]?
      = ((simulate m P V init draws true).getD t [])[i]? := by
  rw [simulate_getD m P V init draws t ht]
  unfold panel
  rw [simulate_eq_map, ← List.flatMap_def]
  exact getElem?_flatMap_blocks
    (fun t => (periodOut m P V draws t (statesAt m P V init draws t)).1) init.length
    (records_length m P V init draws) ht hi

theorem agentDecision_batch_irrelevant {m : Model} {P : Params} {g : Groups} {t : Nat}
    (next : Option (Tensor Ext × List (List (Name × Rat)))) {B B' : List (List (Name × Rat))}
    {i i' : Nat} (hi : i < B.length) (hi' : i' < B'.length) (hst : B.getD i [] = B'.getD i' [])
    (hne : (assignments g.sC).filter (agentFilt m P g t (B.getD i [])) ≠ []) :
    agentDecision m P g t next B i = agentDecision m P g t next B' i' := by
  unfold agentDecision
  simp only []
  rw [simChoice_own_state _ _ _ (agentFilt m P g t) (fun st c e y => valueOf (agentObj m P g t next st c e y))
    (fun st c e y => feasibleOf (agentObj m P g t next st c e y)) hi hi' hst hne, hst]

theorem agentDecision_alone (m : Model) (P : Params) (g : Groups) (t : Nat)
    (next : Option (Tensor Ext × List (List (Name × Rat)))) (states : List (List (Name × Rat)))
    (i : Nat) (hi : i < states.length)
    (hne : (assignments g.sC).filter (agentFilt m P g t (states.getD i [])) ≠ []) :
    agentDecision m P g t next states i = agentDecision m P g t next [states.getD i []] 0 :=
  agentDecision_batch_irrelevant next hi Nat.zero_lt_one rfl hne

#print axioms panel_row
#print axioms agentDecision_batch_irrelevant

def Deterministic (m : Model) : Prop := ∀ nf ∈ (functionInfo m).filter (·.isNext), nf.isStochasticNext = false

theorem nextStatesOf_deterministic {m : Model} (hdet : Deterministic m) (P : Params) (draws draws' : Draws)
    (t i i' : Nat) (rec_ : Record) :
    nextStatesOf m P draws t i rec_ = nextStatesOf m P draws' t i' rec_ :=
  List.map_congr_left fun nf hnf => by simp only [hdet nf hnf, Bool.false_eq_true, if_false]

/-- **path independence**: in a model without stochastic transitions the state of agent `i` in every period
is the state the agent reaches when it is simulated alone - whatever the other agents of the batch are.
`hne` : along its own path the agent always has a filter-passing restricted choice. -/
theorem statesAt_alone {m : Model} {P : Params} {V : List (Tensor Ext)} {init : List (List (Name × Rat))}
    (draws : Draws) {draws' : Draws} {i : Nat} (hi : i < init.length) (hdet : Deterministic m)
    (hne : ∀ t, (assignments (groups m).sC).filter
      (agentFilt m P (groups m) t ((statesAt m P V [init.getD i []] draws' t).getD 0 [])) ≠ []) (t : Nat) :
    (statesAt m P V init draws t).getD i [] = (statesAt m P V [init.getD i []] draws' t).getD 0 [] := by
  induction t with
  | zero => rfl
  | succ t ih =>
    have hlen : i < (statesAt m P V init draws t).length := by rw [statesAt_length]; exact hi
    have hlen1 : 0 < (statesAt m P V [init.getD i []] draws' t).length := by rw [statesAt_length]; simp
    rw [statesAt_succ_getD m P V draws t hi, statesAt_succ_getD m P V draws' t (by simp),
      periodOut_next_getD m P V draws t hlen, periodOut_next_getD m P V draws' t hlen1,
      nextStatesOf_deterministic hdet P draws draws' t i 0,
      periodOut_record_getD m P V draws t hlen, periodOut_record_getD m P V draws' t hlen1,
      agentDecision_batch_irrelevant (simNext m P V t) hlen hlen1 ih
        (by rw [ih]; exact hne t)]

theorem record_alone {m : Model} {P : Params} {V : List (Tensor Ext)} {init : List (List (Name × Rat))}
    (draws : Draws) {draws' : Draws} {i : Nat} (hi : i < init.length) (hdet : Deterministic m)
    (hne : ∀ t, (assignments (groups m).sC).filter
      (agentFilt m P (groups m) t ((statesAt m P V [init.getD i []] draws' t).getD 0 [])) ≠ [])
    {t : Nat} (ht : t < m.nPeriods) :
    ((simulate m P V init draws true).getD t []).getD i default
      = ((simulate m P V [init.getD i []] draws' true).getD t []).getD 0 default := by
  have hs := statesAt_alone draws hi hdet hne t
  rw [simulate_record P V draws ht hi, simulate_record P V draws' ht (by simp)]
  exact agentDecision_batch_irrelevant (simNext m P V t)
    (by rw [statesAt_length]; exact hi) (by rw [statesAt_length]; simp) hs (by rw [hs]; exact hne t)

#print axioms record_alone
end Lcm
