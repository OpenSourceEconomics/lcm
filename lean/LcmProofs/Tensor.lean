import LcmModel.Tensor
import LcmProofs.Lists

namespace Lcm

theorem length_allIdx (s : List Nat) : (allIdx s).length = s.prod := by
  induction s with
  | nil => rfl
  | cons n s ih =>
    simp only [allIdx, List.length_flatMap, List.length_map, ih, List.prod_cons, List.map_const',
      List.sum_replicate_nat, List.length_range]

@[simp] theorem inBounds_nil_iff (idx : List Nat) : InBounds [] idx ↔ idx = [] := by
  cases idx <;> simp [InBounds]

@[simp] theorem inBounds_cons_cons (n i : Nat) (s is : List Nat) :
    InBounds (n :: s) (i :: is) ↔ i < n ∧ InBounds s is := Iff.rfl

@[simp] theorem not_inBounds_cons_nil (n : Nat) (s : List Nat) : ¬ InBounds (n :: s) [] := id

theorem inBounds_cons_iff {n : Nat} {s idx : List Nat} :
    InBounds (n :: s) idx ↔ ∃ i is, idx = i :: is ∧ i < n ∧ InBounds s is := by
  cases idx with
  | nil => simp
  | cons i is => exact ⟨fun h => ⟨i, is, rfl, h⟩, fun ⟨_, _, e, h⟩ => by cases e; exact h⟩

theorem inBounds_length {s i : List Nat} (h : InBounds s i) : i.length = s.length := by
  induction s generalizing i with
  | nil => simp_all
  | cons n s ih => obtain ⟨j, js, rfl, -, hjs⟩ := inBounds_cons_iff.mp h; simp [ih hjs]

theorem inBounds_append {s1 s2 i1 i2 : List Nat} (h1 : InBounds s1 i1) (h2 : InBounds s2 i2) :
    InBounds (s1 ++ s2) (i1 ++ i2) := by
  induction s1 generalizing i1 with
  | nil => simp_all
  | cons n s ih => obtain ⟨i, is, rfl, hi, his⟩ := inBounds_cons_iff.mp h1; exact ⟨hi, ih his⟩

theorem inBounds_split {s1 s2 idx : List Nat} (h : InBounds (s1 ++ s2) idx) :
    ∃ d x, idx = d ++ x ∧ InBounds s1 d ∧ InBounds s2 x := by
  induction s1 generalizing idx with
  | nil => exact ⟨[], idx, rfl, by simp, h⟩
  | cons n s ih =>
    obtain ⟨i, is, rfl, hi, his⟩ := inBounds_cons_iff.mp h
    obtain ⟨d, x, rfl, hd, hx⟩ := ih his
    exact ⟨i :: d, x, rfl, ⟨hi, hd⟩, hx⟩

theorem mem_allIdx_inBounds {s idx : List Nat} (h : idx ∈ allIdx s) : InBounds s idx := by
  induction s generalizing idx with
  | nil => simp_all [allIdx]
  | cons n s ih =>
    simp only [allIdx, List.mem_flatMap, List.mem_range, List.mem_map] at h
    obtain ⟨i, hi, j, hj, rfl⟩ := h
    exact ⟨hi, ih hj⟩

theorem ravel_lt (s idx : List Nat) (h : InBounds s idx) : ravel s idx < s.prod := by
  induction s generalizing idx with
  | nil => simp_all [ravel]
  | cons n s ih =>
    obtain ⟨i, is, rfl, hi, his⟩ := inBounds_cons_iff.mp h
    rw [ravel, List.prod_cons]
    exact mul_add_lt_mul hi (ih is his)

theorem getElem_allIdx_ravel (s idx : List Nat) (h : InBounds s idx) :
    (allIdx s)[ravel s idx]? = some idx := by
  induction s generalizing idx with
  | nil => simp_all [ravel, allIdx]
  | cons n s ih =>
    obtain ⟨i, is, rfl, hi, his⟩ := inBounds_cons_iff.mp h
    rw [allIdx, ravel, getElem?_flatMap_blocks (fun i => (allIdx s).map (i :: ·)) s.prod
      (by intro i; simp [length_allIdx]) hi (ravel_lt s is his)]
    simp [ih is his]

theorem materialize_shape {α} [Inhabited α] (t : Tensor α) : t.materialize.shape = t.shape := rfl

theorem materialize_get {α} [Inhabited α] (t : Tensor α) (idx : List Nat)
    (h : InBounds t.shape idx) : t.materialize.get idx = t.get idx := by
  simp only [Tensor.materialize, Tensor.toFlat]
  simp [getElem_allIdx_ravel t.shape idx h]

theorem materialize_ext {α} [Inhabited α] {X X' : Tensor α} (hs : X'.shape = X.shape)
    (h : ∀ idx, InBounds X.shape idx → X'.get idx = X.get idx) : X'.materialize = X.materialize := by
  unfold Tensor.materialize Tensor.toFlat
  rw [hs, List.map_congr_left fun idx hidx => h idx (mem_allIdx_inBounds hidx)]

theorem materialize_materialize {α} [Inhabited α] (X : Tensor α) : X.materialize.materialize = X.materialize :=
  materialize_ext rfl (materialize_get X)

theorem maxMid_get (t : Tensor Ext) (k m : Nat) (idx : List Nat) :
    (t.maxMid k m).get idx =
      foldMax ((allIdx ((t.shape.drop k).take m)).map fun j => t.get (idx.take k ++ j ++ idx.drop k)) := rfl

theorem segmentMax_shape (t : Tensor Ext) (segIds : List Nat) (num : Nat) :
    (t.segmentMax segIds num).shape = num :: t.shape.tail := rfl

theorem segmentMax_get (t : Tensor Ext) (segIds : List Nat) (num s : Nat) (rest : List Nat) :
    (t.segmentMax segIds num).get (s :: rest)
      = segMaxAt ((List.range (t.shape.headD 0)).map fun r => t.get (r :: rest)) segIds s := rfl

#print axioms materialize_get
end Lcm
