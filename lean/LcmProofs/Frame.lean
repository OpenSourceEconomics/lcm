import LcmProofs.Groups
import LcmProofs.Congr
namespace Lcm

/-! Frame property of by-name evaluation: a model function reads only the names reachable from it in the
function DAG (`ancestorsAux`, the model of `dags.get_ancestors`). Consequence: filters read filter-restricted
variables only - the *definition* of "restricted" (`is_sparse`: ancestor of a filter). -/

theorem callF_frame {m : Model} (P : Params) {fuel : Nat} {e e' : Env} {fname : Name}
    (h : ∀ x ∈ ancestorsAux m fuel fname, e.get? x = e'.get? x) :
    callF m P fuel e fname = callF m P fuel e' fname :=
  callF_congr (fun _ _ => rfl) h (fun _ _ _ _ _ _ => rfl)

theorem allTrue_frame {m : Model} (P : Params) {e e' : Env} {names : List Name}
    (h : ∀ n ∈ names, ∀ x ∈ ancestorsAux m m.fuel n, e.get? x = e'.get? x) :
    allTrue m P e names = allTrue m P e' names :=
  allTrue_congr fun n hn => callF_frame P (h n hn)

theorem not_mem_ancestorsAux {m : Model} {x : Name} (h : ∀ f ∈ m.functions, x ∉ f.args) (fuel : Nat) (n : Name) :
    x ∉ ancestorsAux m fuel n := by
  induction fuel generalizing n with
  | zero => exact List.not_mem_nil
  | succ k ih =>
    intro hx
    obtain ⟨f, hf, hx | ⟨a, _, hx⟩⟩ := mem_ancestorsAux_succ.mp hx
    · exact h f (List.mem_of_find?_eq_some hf) hx
    · exact ih a hx

#print axioms allTrue_frame

theorem mem_ancestors_iff {m : Model} {targets : List Name} {x : Name} :
    x ∈ ancestors m targets ↔ ∃ f ∈ targets, x ∈ ancestorsAux m m.fuel f := by
  unfold ancestors
  rw [List.mem_eraseDups, List.mem_flatMap]
  rfl

theorem declaredInfo_dense_not_filtered {m : Model} {v : VariableInfo} (hv : v ∈ declaredInfo m)
    (hd : v.isDense = true) : v.name ∉ ancestors m (filterNames m) := by
  rw [declaredInfo_mk, List.mem_append, List.mem_map, List.mem_map] at hv
  rcases hv with ⟨p, _, rfl⟩ | ⟨p, _, rfl⟩ <;>
  · rw [mkInfo_isDense, Bool.not_eq_true'] at hd
    exact fun hmem => Bool.false_ne_true (hd.symm.trans (List.contains_iff_mem.mpr hmem))

/-- filters read filter-restricted variables only: no variable of an unrestricted group (states `dS`, `cS`, choices `dC`,
`cC`) is reachable from a filter -/
theorem dense_not_read_by_filters {m : Model} {x : Name}
    (hx : (x ∈ (groups m).dS.map (·.1) ∨ x ∈ (cStateGrids (groups m)).map (·.1)) ∨
      (x ∈ (groups m).dC.map (·.1) ∨ x ∈ (groups m).cC.map (·.1)))
    {f : Name} (hf : f ∈ filterNames m) : x ∉ ancestorsAux m m.fuel f := by
  rw [cStateGrids_groups, groups_eq] at hx
  obtain ⟨i, hi, hx⟩ : ∃ i, (i = 2 ∨ i = 3 ∨ i = 4 ∨ i = 5) ∧ x ∈ (pts (pickOf m (groupPred i))).map (·.1) := by
    rcases hx with (h | h) | (h | h)
    exacts [⟨2, .inl rfl, h⟩, ⟨4, .inr (.inr (.inl rfl)), h⟩, ⟨3, .inr (.inl rfl), h⟩, ⟨5, .inr (.inr (.inr rfl)), h⟩]
  rw [pts_pickOf_names] at hx
  obtain ⟨v, hv, rfl⟩ := List.mem_map.mp hx
  obtain ⟨hvd, hpv⟩ := List.mem_filter.mp hv
  exact fun hanc => declaredInfo_dense_not_filtered hvd (groupPred_isDense i hi v hpv) (mem_ancestors_iff.mpr ⟨f, hf, hanc⟩)

#print axioms dense_not_read_by_filters

/-! The by-name evaluator `callF` carries a fuel argument only to be a total structural recursion; `dags` has none. For an
*acyclic* specification (the only kind `dags` accepts) the fuel `m.fuel = #functions + 2` is adequate: more fuel never
changes a result. -/

/-- the function-to-function dependencies are acyclic: some rank strictly decreases along them -/
def Acyclic (m : Model) : Prop :=
  ∃ rank : Name → Nat, (∀ f ∈ m.functions, rank f.name < m.functions.length) ∧
    ∀ f ∈ m.functions, ∀ a ∈ f.args, (m.func? a).isSome = true → rank a < rank f.name

theorem callF_add_of_rank {m : Model} (P : Params) {rank : Name → Nat}
    (hdec : ∀ f ∈ m.functions, ∀ a ∈ f.args, (m.func? a).isSome = true → rank a < rank f.name)
    {k : Nat} (j : Nat) (e : Env) {n : Name} (hk : rank n < k) : callF m P k e n = callF m P (k + j) e n := by
  induction k generalizing n with
  | zero => omega
  | succ k ih =>
    rw [Nat.add_right_comm, callF_succ, callF_succ]
    cases hf : m.func? n with
    | none => rfl
    | some f =>
      -- an argument that is a function has a smaller rank, so `k` is enough fuel for it
      have hargs : f.args.mapM (argVal m P k e n) = f.args.mapM (argVal m P (k + j) e n) :=
        mapM_congr_option fun a ha => by
          unfold argVal
          cases hfa : m.func? a with
          | none => rfl
          | some g =>
            have := hdec f (List.mem_of_find?_eq_some hf) a ha (by rw [hfa]; rfl)
            exact ih (by rw [func?_name hf] at this; omega)
      rw [Option.bind_some, Option.bind_some, hargs]

theorem callF_fuel_adequate (m : Model) (hac : Acyclic m) (P : Params) (j : Nat) (e : Env) (n : Name) :
    callF m P m.fuel e n = callF m P (m.fuel + j) e n := by
  obtain ⟨rank, hlt, hdec⟩ := hac
  cases hf : m.func? n with
  | none =>
    -- not a function: undefined for every positive fuel
    have h1 : ∀ k, callF m P (k + 1) e n = none := fun k => by rw [callF_succ, hf]; rfl
    rw [Model.fuel, Nat.add_right_comm]
    exact (h1 _).trans (h1 _).symm
  | some f =>
    apply callF_add_of_rank P hdec
    have := hlt f (List.mem_of_find?_eq_some hf)
    rw [func?_name hf] at this
    unfold Model.fuel
    omega

#print axioms callF_fuel_adequate
end Lcm
