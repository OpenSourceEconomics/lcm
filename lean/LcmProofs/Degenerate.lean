import LcmProofs.NodesPerm
import LcmProofs.TwoRuns
namespace Lcm

/-! C11, degenerate transition rows, for the executable `solve`: a stochastic state whose transition row is one-hot at the
label the deterministic transition returns gives the same solution as the specification with that deterministic
transition. The expectation over the product of label grids collapses: all nodes that carry another label of `x` have
weight zero - *provided the continuation is defined there* (the supported class: no `-inf` entry, no excluded state is
touched; otherwise the implementation computes `0 * -inf = nan` where the deterministic specification is fine). -/

def OneHot (row : List Rat) (ℓ : Nat) : Prop :=
  ℓ < row.length ∧ ∀ l, l < row.length → row.getD l 0 = if l = ℓ then 1 else 0

theorem zero_row_sum {row : List Rat} (h : ∀ l, l < row.length → row.getD l 0 = 0) (F : Nat → Rat) (k : Nat) :
    ((row.zipIdx k).map fun wl => wl.1 * F wl.2).sum = 0 := by
  induction row generalizing k with
  | nil => rfl
  | cons a row ih =>
    rw [List.zipIdx_cons, List.map_cons, List.sum_cons, ih (fun l hl => h (l + 1) (Nat.succ_lt_succ hl)),
      show a = 0 from h 0 (Nat.zero_lt_succ _)]
    simp

theorem onehot_sum {row : List Rat} {ℓ : Nat} (h : OneHot row ℓ) (F : Nat → Rat) (k : Nat) :
    ((row.zipIdx k).map fun wl => wl.1 * F wl.2).sum = F (k + ℓ) := by
  induction row generalizing ℓ k with
  | nil => exact absurd h.1 (Nat.not_lt_zero _)
  | cons a row ih =>
    have ha : a = if 0 = ℓ then 1 else 0 := h.2 0 (Nat.zero_lt_succ _)
    have hrest : ∀ l, l < row.length → row.getD l 0 = if l + 1 = ℓ then 1 else 0 :=
      fun l hl => h.2 (l + 1) (Nat.succ_lt_succ hl)
    rw [List.zipIdx_cons, List.map_cons, List.sum_cons, ha]
    cases ℓ with
    | zero => rw [zero_row_sum (fun l hl => by rw [hrest l hl]; simp)]; simp
    | succ ℓ =>
      rw [ih ⟨Nat.lt_of_succ_lt_succ h.1, fun l hl => by rw [hrest l hl]; simp⟩ (k + 1)]
      simp [Nat.add_assoc, Nat.add_comm 1 ℓ]

theorem onehot_zip_sum {row v : List Rat} {ℓ : Nat} (h : OneHot row ℓ) (hlen : row.length = v.length) :
    ((row.zip v).map fun p => p.1 * p.2).sum = v.getD ℓ 0 := by
  -- pair every weight with its position instead of its value, then `onehot_sum`
  rw [← Nat.zero_add ℓ, ← onehot_sum h (fun i => v.getD i 0) 0]
  congr 1
  refine List.ext_getElem (by simp [hlen]) fun i h1 h2 => ?_
  have hi : i < v.length := by simpa [hlen] using h1
  simp [List.getElem?_eq_getElem hi]

theorem oneHot_indicator (n ℓ : Nat) (hℓ : ℓ < n) : OneHot ((List.range n).map fun k => if k = ℓ then (1 : Rat) else 0) ℓ :=
  ⟨by simpa using hℓ, fun i hi => getD_map_range (by simpa using hi) 0⟩

theorem onehot_nodes_sum {x : Name} {row : List Rat} {ℓ : Nat} (hoh : OneHot row ℓ) {W' : List (Name × List Rat)}
    {K : List (Name × Rat) → Option Rat}
    (hK : ∀ p ∈ nodesOf ((x, row) :: W'), (K p.1).isSome = true) :
    expect K ((x, row) :: W') = expect (fun a => K ((x, (ℓ : Rat)) :: a)) W' := by
  have hK' : ∀ p ∈ nodesOf W', (K ((x, (ℓ : Rat)) :: p.1)).isSome = true := fun p hp =>
    hK ((x, (ℓ : Rat)) :: p.1, row.getD ℓ 0 * p.2) (by
      rw [nodesOf_cons, List.mem_flatMap]
      refine ⟨(row.getD ℓ 0, ℓ), ?_, List.mem_map_of_mem hp⟩
      rw [List.mem_zipIdx_iff_getElem?]
      simp [List.getD_eq_getElem?_getD, List.getElem?_eq_getElem hoh.1])
  -- both sides are plain sums; split off the axis of `x`, on which the one-hot row picks `ℓ`
  rw [expect_of_isSome hK, expect_of_isSome hK', nodes_cons_sum x row W' fun a => (K a).getD 0,
    onehot_sum hoh (fun l => ((nodesOf W').map fun p => p.2 * (K ((x, (l : Rat)) :: p.1)).getD 0).sum) 0,
    Nat.zero_add]


/-- `m` has the stochastic state `x` with degenerate rows, `m'` the corresponding deterministic transition; everything
else evaluates alike -/
structure DegenerateTo (m m' : Model) (P : Params) (x : Name) : Prop where
  periods : m'.nPeriods = m.nPeriods
  grp : groups m' = groups m
  space : ∀ g t, mkSpace m' P g t = mkSpace m P g t
  constraints : ∀ env, allTrue m' P env (constraintNames m') = allTrue m P env (constraintNames m)
  util : ∀ env, utilOf m' P env = utilOf m P env
  /-- in `m` the row of `x` is one-hot at the label the deterministic transition of `m'` returns; the other transitions
  are the same (as sets of named values / named rows) -/
  trans : ∀ env d W, detOf m P env = some d → wrowsOf m P env = some W →
    ∃ (ℓ : Nat) (row : List Rat) (W' : List (Name × List Rat)) (d' : Env),
      OneHot row ℓ ∧ W.Perm ((x, row) :: W') ∧ wrowsOf m' P env = some W' ∧
      detOf m' P env = some d' ∧ d'.Perm ((x, Val.num (ℓ : Rat)) :: d)
  /-- transitions feed pairwise distinct states -/
  keys : ∀ env d W, detOf m P env = some d → wrowsOf m P env = some W → (d.map (·.1) ++ W.map (·.1)).Nodup

/-- the supported class for this law: wherever the static objective is defined, the transitions are, and the continuation
value is defined at every node of the expectation - the zero-weight ones included -/
def NodesDefined (m : Model) (P : Params) (g : Groups) (t : Nat) (V : Tensor Ext) (feas : List (List (Name × Rat))) : Prop :=
  ∀ env0, (allTrue m P (env0 ++ periodEnv t) (constraintNames m)).isSome = true →
    (utilOf m P (env0 ++ periodEnv t)).isSome = true →
    ∃ d W, detOf m P (env0 ++ periodEnv t) = some d ∧ wrowsOf m P (env0 ++ periodEnv t) = some W ∧
      ∀ p ∈ nodesOf W, (vhat g feas V (d ++ toEnv p.1)).isSome = true

variable {m m' : Model} {P : Params} {x : Name}

theorem DegenerateTo.contOf (h : DegenerateTo m m' P x) {g : Groups} {env : Env}
    {nx : Tensor Ext × List (List (Name × Rat))} {d : Env} {W : List (Name × List Rat)}
    (hd : detOf m P env = some d) (hW : wrowsOf m P env = some W)
    (hnodes : ∀ p ∈ nodesOf W, (vhat g nx.2 nx.1 (d ++ toEnv p.1)).isSome = true) :
    contOf m' P g env nx = contOf m P g env nx := by
  obtain ⟨ℓ, row, W', d', hoh, hperm, hW', hd', hdperm⟩ := h.trans _ d W hd hW
  have hkeys := h.keys _ d W hd hW
  unfold Lcm.contOf
  rw [hd, hW, hd', hW', Option.bind_some, Option.bind_some, Option.bind_some, Option.bind_some]
  let K : List (Name × Rat) → Option Rat := fun a => vhat g nx.2 nx.1 (d ++ toEnv a)
  -- `K` does not depend on the order of the labels, so the row of `x` may be moved to the front ...
  have hInv : InvOn K (W.map (·.1)) := vhat_invOn g nx.2 nx.1 d (List.nodup_append.mp hkeys).2.1
  have hpermN := nodes_map_perm W ((x, row) :: W') hperm K hInv
  have hK : ∀ p ∈ nodesOf ((x, row) :: W'), (K p.1).isSome = true := fun p hp => by
    obtain ⟨p0, hp0, he⟩ := List.mem_map.mp (hpermN.mem_iff.mpr (List.mem_map_of_mem hp))
    rw [← gK_isSome K p, ← he, gK_isSome]
    exact hnodes p0 hp0
  -- ... where, being one-hot, it selects the label that the deterministic transition of `m'` returns
  rw [expect_perm hperm hInv, onehot_nodes_sum hoh hK]
  refine expect_congr fun p hp => ?_
  -- the two environments are rearrangements of each other, and their names are those of `d` and `W`
  refine (vhat_congr_env (envEq_of_perm_env (List.perm_middle.trans (hdperm.symm.append_right _)) ?_)).symm
  rw [List.map_append, List.map_cons, toEnv_keys, nodes_keys hp]
  exact (List.Perm.append_left _ (hperm.map _)).nodup_iff.mp hkeys

theorem DegenerateTo.uAndF (h : DegenerateTo m m' P x) {g : Groups} {t : Nat}
    {next : Option (Tensor Ext × List (List (Name × Rat)))}
    (hdef : ∀ V feas, next = some (V, feas) → NodesDefined m P g t V feas) (env0 : Env) :
    uAndF m' P g t next env0 = uAndF m P g t next env0 :=
  uAndF_congr (h.constraints _) (h.util _) rfl fun nx hn hA hU => by
    obtain ⟨d, W, hd, hW, hnodes⟩ := hdef nx.1 nx.2 hn env0 hA hU
    exact h.contOf hd hW hnodes

theorem solve_degenerate (h : DegenerateTo m m' P x)
    (hdef : ∀ t, t + 1 < m.nPeriods →
      NodesDefined m P (groups m) t ((solve m P true).getD (t + 1) default) (mkSpace m P (groups m) (t + 1)).feas)
    {t : Nat} (ht : t < m.nPeriods) :
    (solve m' P true).getD t default = (solve m P true).getD t default :=
  solve_getD_eq_of_step h.periods (fun t => by rw [h.grp, h.space]) (fun t ht hnext => by
    rw [solve_getD m' P t (h.periods ▸ ht), solve_getD m P t ht, hnext, h.grp, h.space]
    -- the hypothesis speaks of the array `solve` returned for the next period: that is what `nextOf` hands over
    refine solvePeriod_congr (fun e => .of_eq (h.uAndF (fun V feas hn => ?_) e)) _
    by_cases ht1 : t + 1 < m.nPeriods
    · rw [nextOf_of_lt P ht1] at hn; cases hn; exact hdef t ht1
    · rw [nextOf_last P (by omega)] at hn; cases hn) ht

#print axioms solve_degenerate
end Lcm
