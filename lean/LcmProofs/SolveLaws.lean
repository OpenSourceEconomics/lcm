import LcmProofs.TwoRuns
import LcmProofs.Objective
import LcmProofs.Frame
import LcmProofs.ModelSig
namespace Lcm

/-! Laws of the executable `solve` of the form "two runs return the same arrays", each an instance of `solve_congr`,
`bw_rel` or (`beta = 0`) `solvePeriod_congr` (TwoRuns.lean): horizon invariance and `beta = 0` (C11), parameters read
slot by slot (C07). Where the two runs make the same calls by name, that is all a law has to show (`callF_period`,
`callF_wh`, `callF_sameSlots`): `uAndF_congr_calls` and `mkSpace_congr_calls` carry it to the objective and the space. -/

section

/-! C11, horizon invariance, for the executable model itself: if no function takes `_period` as an argument, the array
`solve` returns `j` periods before the end is the same for every horizon. -/

def NoPeriod (m : Model) : Prop := ∀ f ∈ m.functions, "_period" ∉ f.args

theorem get?_periodEnv_of_ne (t : Nat) {x : Name} (hx : x ≠ "_period") : (periodEnv t).get? x = none := by
  simp [periodEnv, Env.get?, beq_eq_false_iff_ne.mpr hx.symm]

theorem get?_period_irrelevant (env0 : Env) (t t' : Nat) {x : Name} (hx : x ≠ "_period") :
    (env0 ++ periodEnv t).get? x = (env0 ++ periodEnv t').get? x := by
  rw [get?_append, get?_append, get?_periodEnv_of_ne t hx, get?_periodEnv_of_ne t' hx]

variable {m : Model}

theorem callF_period (h : NoPeriod m) (P : Params) (env0 : Env) (t t' : Nat) (n : Name) :
    callF m P m.fuel (env0 ++ periodEnv t) n = callF m P m.fuel (env0 ++ periodEnv t') n :=
  callF_frame P fun _ hx =>
    get?_period_irrelevant env0 t t' fun hxe => not_mem_ancestorsAux h _ n (hxe ▸ hx)

def withHorizon (m : Model) (T' : Nat) : Model := { m with nPeriods := T' }

theorem callF_wh (m : Model) (T' : Nat) (P : Params) (env : Env) (n : Name) :
    callF (withHorizon m T') P (withHorizon m T').fuel env n = callF m P m.fuel env n :=
  callF_congr_funcs (withHorizon m T') m (fun _ => rfl) P m.fuel env n

theorem groups_wh (m : Model) (T' : Nat) : groups (withHorizon m T') = groups m :=
  SameSig.groups ⟨rfl, rfl, rfl⟩

theorem bw_horizon (h : NoPeriod m) (P : Params) (T' j : Nat) :
    (bw (withHorizon m T') P true j).1 = (bw m P true j).1 :=
  have hcall : ∀ t t' e n, callF (withHorizon m T') P (withHorizon m T').fuel (e ++ periodEnv t') n
      = callF m P m.fuel (e ++ periodEnv t) n :=
    fun t t' e n => (callF_wh m T' P _ n).trans (callF_period h P e t' t n)
  have hobj : ∀ t t' next e, ObjRel id (uAndF (withHorizon m T') P (groups m) t' next e) (uAndF m P (groups m) t next e) :=
    fun t t' next e => .of_eq <| uAndF_congr_calls _ next rfl (hcall t t' e) (fun _ _ _ =>
      wrowFn_congr rfl (fun f hf _ ha =>
        get?_period_irrelevant e t' t fun hae => h f (List.mem_of_find?_eq_some hf) (hae ▸ ha)) rfl) rfl
  bw_rel (fun _ V' V => V' = V) (groups_wh m T') (fun _ => mkSpace_congr_calls rfl (hcall _ _))
    (solvePeriod_congr (hobj _ _ _))
    (fun _ sp _ _ _ hV => hV ▸ solvePeriod_congr (hobj _ _ _) sp) j

#print axioms bw_horizon
end

section

/-! C11, `beta = 0`, for the executable model: every period's array is the array of the one-period problem of that
period (the static maximisation of utility over the admissible choices of that period). Hypothesis: the continuation
value is *defined* wherever the one-period objective is (transitions stay inside the stored state space and touch no
`-inf` entry - the supported class); with `beta = 0` its numerical value is then irrelevant. -/

variable {m : Model} {P : Params}

def ContinuationDefined (m : Model) (P : Params) (t : Nat) : Prop :=
  ∀ e, (uAndF m P (groups m) t none e).isSome = true →
    (uAndF m P (groups m) t (nextOf m P (solve m P true) t) e).isSome = true

theorem uAndF_beta_zero (hβ : P.beta = 0) {g : Groups} {t : Nat} {V : Tensor Ext} {feas : List (List (Name × Rat))}
    {e : Env} (hdef : (uAndF m P g t none e).isSome = true → (uAndF m P g t (some (V, feas)) e).isSome = true) :
    uAndF m P g t (some (V, feas)) e = uAndF m P g t none e := by
  rw [uAndF_eq, uAndF_eq] at *
  simp only [valOf] at *
  revert hdef
  cases allTrue m P (e ++ periodEnv t) (constraintNames m) with
  | none => intro _; rfl
  | some f =>
    cases utilOf m P (e ++ periodEnv t) with
    | none => intro _; rfl
    | some u =>
      cases contOf m P g (e ++ periodEnv t) (V, feas) with
      | none => intro hdef; simp at hdef
      | some ev => intro _; simp [hβ]

theorem solve_beta_zero (hβ : P.beta = 0) {t : Nat} (ht : t < m.nPeriods) (hdef : ContinuationDefined m P t) :
    (solve m P true).getD t default
      = solvePeriod m P (groups m) t (mkSpace m P (groups m) t) none := by
  rw [solve_getD m P t ht]
  cases hn : nextOf m P (solve m P true) t with
  | none => rfl
  | some nx =>
    exact solvePeriod_congr (fun e => .of_eq (uAndF_beta_zero hβ fun h0 => hn ▸ hdef e h0)) _

#print axioms solve_beta_zero
end

section

/-! C07 for the executable `solve`: the value arrays depend on the parameters only through `beta`, the transition
arrays, and the values stored *under a function's own name for that function's own arguments*. Entries stored for
names that are not arguments of the function, entries for functions that do not exist, and equal parameter names in
other functions never matter. -/

structure SameSlots (m : Model) (P P' : Params) : Prop where
  beta : P'.beta = P.beta
  shocks : P'.shocks = P.shocks
  slots : ∀ f ∈ m.functions, ∀ p ∈ f.args, P'.get? f.name p = P.get? f.name p

variable {m : Model} {P P' : Params}

theorem callF_sameSlots (h : SameSlots m P P') (fuel : Nat) (e : Env) (n : Name) :
    callF m P' fuel e n = callF m P fuel e n :=
  callF_congr (fun _ _ => rfl) (fun _ _ => rfl) fun _ f _ hgf x hx =>
    func?_name hgf ▸ h.slots f (List.mem_of_find?_eq_some hgf) x hx

theorem solve_sameSlots (h : SameSlots m P P') : solve m P' true = solve m P true :=
  solve_congr rfl rfl (fun _ => mkSpace_congr_calls rfl fun _ => callF_sameSlots h _ _) fun _ next _ =>
    .of_eq <| uAndF_congr_calls _ next rfl (callF_sameSlots h _ _)
      (fun _ _ _ => wrowFn_congr rfl (fun _ _ _ _ => rfl) h.shocks) h.beta

#print axioms solve_sameSlots
end

end Lcm
