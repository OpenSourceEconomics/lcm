import Mathlib.Tactic.Ring
import LcmModel.InterpCorners
import Mathlib.Algebra.BigOperators.Ring.List
namespace Lcm

def Tensor.affine (a b : Rat) (t : Tensor Rat) : Tensor Rat :=
  { shape := t.shape, get := fun idx => a * t.get idx + b }

theorem affine_slice (a b : Rat) (t : Tensor Rat) (i : Nat) :
    (Tensor.affine a b t).slice i = Tensor.affine a b (t.slice i) := rfl

/-- also outside the grid: the weights `1 - w`, `w` sum to one whatever `w` is -/
theorem interp_affine (a b : Rat) (t : Tensor Rat) (cs : List Rat) :
    interp (Tensor.affine a b t) cs = a * interp t cs + b := by
  induction cs generalizing t with
  | nil => rfl
  | cons c cs ih =>
    simp only [interp, affine_slice, ih]
    simp only [Tensor.affine]
    ring

theorem interp_affine_in_coord (t : Tensor Rat) (c : Rat) (cs : List Rat) :
    let lo := lowerIdx' c (t.shape.headD 0)
    interp t (c :: cs) = interp (t.slice lo) cs
      + (c - (lo : Rat)) * (interp (t.slice (lo + 1)) cs - interp (t.slice lo) cs) := by
  simp only [interp]; ring

#print axioms interp_affine

theorem interpCorners_eq_interp {t : Tensor Rat} {cs : List Rat} (h : cs.length = t.shape.length) :
    interpCorners t cs = interp t cs := by
  induction cs generalizing t with
  | nil =>
    have : t.shape = [] := List.length_eq_zero_iff.mp h.symm
    simp [interpCorners, interp, this, cornerProduct, weightProduct]
  | cons c cs ih =>
    obtain ⟨_ | ⟨n, s⟩, get⟩ := t
    · cases h
    · simp only [interp, List.headD_cons]
      rw [← ih (t := Tensor.slice ⟨n :: s, get⟩ (lowerIdx' c n)) (Nat.succ.inj h),
        ← ih (t := Tensor.slice ⟨n :: s, get⟩ (lowerIdx' c n + 1)) (Nat.succ.inj h)]
      -- `cornerProduct` lists the corners with the lower node of the first axis, then those with the upper node: the sum
      -- splits into two halves, each the weight of that node times the corner sum of its slice
      simp only [interpCorners, Tensor.slice, List.zip_cons_cons, List.map_cons, cornerProduct, axisData,
        List.flatMap_cons, List.flatMap_nil, List.append_nil, List.map_append, List.map_map, List.sum_append,
        List.tail_cons]
      rw [← List.sum_map_mul_left, ← List.sum_map_mul_left]
      congr 1 <;>
      · congr 1
        apply List.map_congr_left
        intro corner _
        simp only [Function.comp, weightProduct, List.map_cons, List.foldr_cons]
        ring

#print axioms interpCorners_eq_interp
end Lcm
