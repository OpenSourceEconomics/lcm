import LcmModel.SimStep
import LcmProofs.SolveStep
import LcmProofs.Lists
namespace Lcm
variable {C E Y : Type}

theorem firstTrue_spec {bs : List Bool} (h : ∃ i, ∃ hi : i < bs.length, bs[i] = true) :
    ∃ hj : firstTrue bs < bs.length, bs[firstTrue bs] = true := by
  obtain ⟨i, hi, hbi⟩ := h
  have hlt : bs.findIdx (· = true) < bs.length :=
    List.findIdx_lt_length_of_exists ⟨bs[i], List.getElem_mem hi, by simpa using hbi⟩
  rw [show firstTrue bs = bs.findIdx (· = true) from if_pos hlt]
  exact ⟨hlt, by simpa using List.findIdx_getElem (w := hlt)⟩

theorem firstTrue_eq_zero {bs : List Bool} (h : ∀ b ∈ bs, b = false) : firstTrue bs = 0 := by
  unfold firstTrue
  rw [List.findIdx_eq_length.mpr (by simpa using h)]
  simp

theorem getElem_of_lt_firstTrue {bs : List Bool} {j : Nat} (hj : j < firstTrue bs) (hjl : j < bs.length) :
    bs[j] = false := by
  unfold firstTrue at hj
  simp only at hj
  split at hj
  · simpa using List.not_of_lt_findIdx hj
  · omega

theorem argmaxBlock_spec (xs : List Ext) (mask : List Bool) (hlen : xs.length = mask.length)
    (hm : maskedMax xs mask ≠ .ninf) :
    ∃ hj : (argmaxBlock xs mask).1 < xs.length,
      mask[(argmaxBlock xs mask).1]'(by omega) = true ∧
      xs[(argmaxBlock xs mask).1] = maskedMax xs mask := by
  -- the max is a member of the unmasked values
  obtain ⟨i, hi', hi'', hmask, (hval : xs[i] = maskedMax xs mask)⟩ :=
    foldMax_zip_select_attained xs mask (· = true) fun h => hm (congrArg foldMax h)
  -- so the hit vector has a True at i
  let hits := (xs.zip mask).map fun p => decide (p.1 = maskedMax xs mask) && p.2
  have hhl : hits.length = xs.length := by simp only [hits, List.length_map, List.length_zip]; omega
  have hex : ∃ j, ∃ hj : j < hits.length, hits[j] = true := by
    refine ⟨i, by omega, ?_⟩
    simp only [hits, List.getElem_map, List.getElem_zip, hmask, hval, decide_true, Bool.and_self]
  obtain ⟨hj, hjt⟩ := firstTrue_spec hex
  simp only [hits, List.getElem_map, List.getElem_zip, Bool.and_eq_true, decide_eq_true_eq] at hjt
  exact ⟨hhl ▸ hj, hjt.2, hjt.1⟩

#print axioms argmaxBlock_spec

/-- the last index below `n` that satisfies `p` (0 if there is none): what `segment_argmax` computes with
`max_value_mask * arange` followed by a max. `segArgmaxAt` and `lastHit` spell the same `foldl` out, so they are a
`lastSat` by unfolding only (`show lastSat _ _ = _`). -/
def lastSat (n : Nat) (p : Nat → Bool) : Nat := ((List.range n).filter p).foldl Nat.max 0

theorem lastSat_spec {n : Nat} {p : Nat → Bool} {r : Nat} (hr : r < n) (hp : p r = true) :
    lastSat n p < n ∧ p (lastSat n p) = true ∧ r ≤ lastSat n p := by
  -- `foldl max 0` of the hits is the maximum of `0 :: hits`
  obtain ⟨(h0 : lastSat n p ∈ 0 :: (List.range n).filter p),
      (hub : ∀ b ∈ 0 :: (List.range n).filter p, b ≤ lastSat n p)⟩ :=
    List.max?_eq_some_iff.mp (List.max?_cons' (x := 0) (xs := (List.range n).filter p))
  have hmem : ∀ x, x ∈ (List.range n).filter p ↔ x < n ∧ p x = true := by simp
  have hle : r ≤ lastSat n p := hub r (List.mem_cons_of_mem _ ((hmem r).mpr ⟨hr, hp⟩))
  have hin : lastSat n p ∈ (List.range n).filter p := by
    rcases List.mem_cons.mp h0 with h0 | h0
    · have hr0 : r = lastSat n p := by omega
      exact hr0 ▸ (hmem r).mpr ⟨hr, hp⟩
    · exact h0
  exact and_assoc.mp ⟨(hmem _).mp hin, hle⟩

theorem lastSat_eq {n : Nat} {p : Nat → Bool} {j : Nat} (hj : j < n) (hp : p j = true)
    (hub : ∀ r, r < n → p r = true → r ≤ j) : lastSat n p = j := by
  obtain ⟨h1, h2, h3⟩ := lastSat_spec hj hp
  exact Nat.le_antisymm (hub _ h1 h2) h3

theorem segArgmaxAt_spec (vals : List Ext) (segIds : List Nat) (hlen : vals.length = segIds.length)
    (k : Nat) (hne : ∃ r, ∃ hr : r < segIds.length, segIds[r] = k) :
    ∃ hr : (segArgmaxAt vals segIds k).1 < vals.length,
      segIds[(segArgmaxAt vals segIds k).1]'(by omega) = k ∧
      vals[(segArgmaxAt vals segIds k).1] = segMaxAt vals segIds k := by
  obtain ⟨r1, hr1, hs1⟩ := hne
  -- the segment's value list is non-empty, so its max is the value of one of its rows
  obtain ⟨r0, hr0v, _, (hpv : segIds[r0]'(by omega) = k ∧ vals[r0] = segMaxAt vals segIds k)⟩ :=
    foldMax_zip_select_attained vals segIds (· = k)
      (List.ne_nil_of_mem (mem_zip_select vals segIds (· = k) r1 (by omega) hr1 hs1))
  -- so that row is a hit, and the selected row is the last hit
  obtain ⟨hlt, hsat, _⟩ := lastSat_spec
    (p := fun r => decide (segIds.getD r (k + 1) = k) && decide (vals.getD r .ninf = segMaxAt vals segIds k)) hr0v
    (by rw [← List.getElem_eq_getD (h := by omega), ← List.getElem_eq_getD (h := hr0v)]
        simpa using hpv)
  simp only [Bool.and_eq_true, decide_eq_true_eq] at hsat
  exact ⟨hlt, (List.getElem_eq_getD _).trans hsat.1, (List.getElem_eq_getD _).trans hsat.2⟩

#print axioms segArgmaxAt_spec

/-- index (within a block) of the last element attaining the block maximum -/
def lastHit (B : List Ext) : Nat :=
  ((List.range B.length).filter fun j => decide (B.getD j .ninf = foldMax B)).foldl Nat.max 0

theorem lastHit_spec {B : List Ext} (hB : B ≠ []) :
    lastHit B < B.length ∧ B.getD (lastHit B) .ninf = foldMax B ∧
      ∀ j, j < B.length → B.getD j .ninf = foldMax B → j ≤ lastHit B := by
  obtain ⟨i, hi, hiv⟩ := List.getElem_of_mem (foldMax_mem hB)
  have hsat := fun j (hj : j < B.length) (hv : B.getD j .ninf = foldMax B) =>
    lastSat_spec (p := fun j => decide (B.getD j .ninf = foldMax B)) hj (decide_eq_true hv)
  obtain ⟨h1, h2, _⟩ := hsat i hi (by rw [← List.getElem_eq_getD (h := hi)]; exact hiv)
  exact ⟨h1, of_decide_eq_true h2, fun j hj hv => (hsat j hj hv).2.2⟩

theorem lastHit_map_spec {X : Type} {xs : List X} (v : X → Ext) (hne : xs ≠ []) (d : X) :
    let x := xs.getD (lastHit (xs.map v)) d
    x ∈ xs ∧ v x = foldMax (xs.map v) := by
  obtain ⟨hlt, hmax, _⟩ := lastHit_spec (B := xs.map v) (by simpa using hne)
  rw [List.length_map] at hlt
  rw [List.getD_eq_getElem?_getD, List.getElem?_map, List.getElem?_eq_getElem hlt] at hmax
  intro x
  have hx : x = xs[lastHit (xs.map v)] := (List.getElem_eq_getD d).symm
  exact hx ▸ ⟨List.getElem_mem _, hmax⟩

/-- `k + 1` is the id `segArgmaxAt` gives a position out of range: any value other than `k` -/
theorem getD_ids_eq_iff {idsA idsC : List Nat} {b k r : Nat} (hkA : k ∉ idsA) (hkC : k ∉ idsC) :
    (idsA ++ List.replicate b k ++ idsC).getD r (k + 1) = k ↔ idsA.length ≤ r ∧ r < idsA.length + b := by
  have hne : ∀ (l : List Nat) (i : Nat), k ∉ l → l[i]?.getD (k + 1) ≠ k := by
    intro l i hl h
    cases hi : l[i]? with
    | none => rw [hi] at h; simp at h
    | some a => rw [hi] at h; exact hl (h ▸ List.mem_of_getElem? hi)
  rw [List.getD_eq_getElem?_getD]
  by_cases h1 : r < idsA.length
  · rw [List.append_assoc, List.getElem?_append_left h1]
    exact ⟨fun h => absurd h (hne _ _ hkA), fun h => by omega⟩
  · by_cases h2 : r < idsA.length + b
    · rw [List.getElem?_append_left (by simp; omega), List.getElem?_append_right (by omega),
        List.getElem?_replicate, if_pos (by omega)]
      exact ⟨fun _ => by omega, fun _ => rfl⟩
    · rw [List.getElem?_append_right (by simp; omega)]
      exact ⟨fun h => absurd h (hne _ _ hkC), fun h => by omega⟩

theorem segArgmaxAt_block {A B Cc : List Ext} {idsA idsC : List Nat} {k : Nat}
    (hA : idsA.length = A.length) (hkA : k ∉ idsA) (hkC : k ∉ idsC) (hB : B ≠ []) :
    segArgmaxAt (A ++ B ++ Cc) (idsA ++ List.replicate B.length k ++ idsC) k
      = (A.length + lastHit B, foldMax B) := by
  obtain ⟨hlt, hv, hub⟩ := lastHit_spec hB
  have hval : segMaxAt (A ++ B ++ Cc) (idsA ++ List.replicate B.length k ++ idsC) k = foldMax B := by
    rw [segMaxAt_append (by simp [hA]), segMaxAt_append hA.symm,
      segMaxAt_of_not_mem A hkA, segMaxAt_replicate_self, segMaxAt_of_not_mem Cc hkC,
      Ext.max_ninf_left, Ext.max_ninf_right]
  refine Prod.ext ?_ hval
  show lastSat _ _ = _
  simp only [hval, getD_ids_eq_iff hkA hkC, hA]
  refine lastSat_eq (by simp only [List.length_append]; omega) ?_ ?_
  · simp only [Bool.and_eq_true, decide_eq_true_eq]
    exact ⟨⟨Nat.le_add_right _ _, Nat.add_lt_add_left hlt _⟩, by rw [getD_mid A Cc hlt]; exact hv⟩
  · intro r _ hp
    simp only [Bool.and_eq_true, decide_eq_true_eq] at hp
    obtain ⟨⟨h1, h2⟩, hrv⟩ := hp
    obtain ⟨i, rfl⟩ := Nat.exists_eq_add_of_le h1
    have hi := Nat.lt_of_add_lt_add_left h2
    rw [getD_mid A Cc hi] at hrv
    exact Nat.add_le_add_left (hub _ hi hrv) _

theorem fst_not_mem_combos {ss : List Nat} {scGrid : List C} {filt : Nat → C → Bool} {k : Nat} (hk : k ∉ ss) :
    k ∉ (combos ss scGrid filt).map (·.1) := by
  intro h
  obtain ⟨p, hp, rfl⟩ := List.mem_map.mp h
  exact hk ((mem_combos ss scGrid filt p).mp hp).1

/-- segment max when the segment ids are the (distinct) agent ids themselves, as in
`create_choice_segments` (`state_ids[mask]`) -/
theorem segMaxAt_combos_ids (ss : List Nat) (hnd : ss.Nodup) (scGrid : List C)
    (filt : Nat → C → Bool) (g : Nat × C → Ext) (k : Nat) (hk : k ∈ ss) :
    segMaxAt ((combos ss scGrid filt).map g) ((combos ss scGrid filt).map (·.1)) k
      = foldMax ((scGrid.filter (filt k)).map fun c => g (k, c)) := by
  simpa [combos_eq_flatMap, List.map_flatMap, Function.comp_def, List.map_const'] using
    segMaxAt_flatMap_self hnd (fun s => (scGrid.filter (filt s)).map fun c => g (s, c)) hk

#print axioms segMaxAt_combos_ids

theorem segArgmaxAt_combos_ids {ss : List Nat} (hnd : ss.Nodup) (scGrid : List C)
    (filt : Nat → C → Bool) (g : Nat × C → Ext) {k : Nat} (hk : k ∈ ss) (hne : scGrid.filter (filt k) ≠ [])
    (d : Nat × C) :
    (combos ss scGrid filt).getD
        (segArgmaxAt ((combos ss scGrid filt).map g) ((combos ss scGrid filt).map (·.1)) k).1 d
      = (k, (scGrid.filter (filt k)).getD (lastHit ((scGrid.filter (filt k)).map fun c => g (k, c))) d.2) := by
  -- the rows of agent `k` are one contiguous block, and no other row carries its id
  obtain ⟨l1, l2, rfl⟩ := List.append_of_mem hk
  have h := List.nodup_append.mp hnd
  have hkA : k ∉ (combos l1 scGrid filt).map (·.1) :=
    fst_not_mem_combos fun hm => h.2.2 k hm k List.mem_cons_self rfl
  have hkC : k ∉ (combos l2 scGrid filt).map (·.1) :=
    fst_not_mem_combos (List.nodup_cons.mp h.2.1).1
  generalize hblock : scGrid.filter (filt k) = block at hne ⊢
  have hrows : combos (l1 ++ k :: l2) scGrid filt
      = combos l1 scGrid filt ++ block.map (fun c => (k, c)) ++ combos l2 scGrid filt := by
    simp [combos, List.filter_map, Function.comp_def, hblock]
  have hv : (combos (l1 ++ k :: l2) scGrid filt).map g
      = (combos l1 scGrid filt).map g ++ (block.map fun c => g (k, c)) ++ (combos l2 scGrid filt).map g := by
    rw [hrows]; simp [Function.comp_def]
  have hi : (combos (l1 ++ k :: l2) scGrid filt).map (·.1)
      = (combos l1 scGrid filt).map (·.1) ++ List.replicate (block.map fun c => g (k, c)).length k
        ++ (combos l2 scGrid filt).map (·.1) := by
    rw [hrows]; simp [Function.comp_def, List.map_const']
  have hB : (block.map fun c => g (k, c)) ≠ [] := by simpa using hne
  have hlt : lastHit (block.map fun c => g (k, c)) < block.length := by simpa using (lastHit_spec hB).1
  rw [hv, hi, segArgmaxAt_block (by simp) hkA hkC hB, hrows, List.length_map,
    getD_mid _ _ (by simpa using hlt)]
  simp [List.getD_eq_getElem?_getD, hlt]

theorem argmaxBlock_fst (xs : List Ext) (mask : List Bool) :
    (argmaxBlock xs mask).1 = firstTrue ((xs.zip mask).map fun p => decide (p.1 = maskedMax xs mask) && p.2) := rfl
theorem argmaxBlock_snd (xs : List Ext) (mask : List Bool) : (argmaxBlock xs mask).2 = maskedMax xs mask := rfl
theorem segArgmaxAt_snd (vals : List Ext) (ids : List Nat) (k : Nat) :
    (segArgmaxAt vals ids k).2 = segMaxAt vals ids k := rfl

/-- everything `simChoice` computes from a row `(i, c)` -/
def rowOut [Inhabited E] [Inhabited Y] (dcGrid : List E) (ccGrid : List Y)
    (q : C → E → Y → Rat) (feas : C → E → Y → Bool) (c : C) : E × Y × Ext :=
  let contPol := fun (e : E) =>
    argmaxBlock (ccGrid.map fun y => Ext.fin (q c e y)) (ccGrid.map fun y => feas c e y)
  let densePol := argmaxBlock (dcGrid.map fun e => (contPol e).2) (dcGrid.map fun _ => true)
  let e := dcGrid.getD densePol.1 default
  (e, ccGrid.getD (contPol e).1 default, densePol.2)

theorem simChoice_eq [Inhabited C] [Inhabited E] [Inhabited Y] (n : Nat) (scGrid : List C)
    (dcGrid : List E) (ccGrid : List Y) (filt : Nat → C → Bool) (q : Nat → C → E → Y → Rat)
    (feas : Nat → C → E → Y → Bool) (k : Nat) :
    simChoice n scGrid dcGrid ccGrid filt q feas k =
      let rows := combos (List.range n) scGrid filt
      let s := segArgmaxAt (rows.map fun r => (rowOut dcGrid ccGrid (q r.1) (feas r.1) r.2).2.2) (rows.map (·.1)) k
      let row := rows.getD s.1 default
      let o := rowOut dcGrid ccGrid (q row.1) (feas row.1) row.2
      (row.2, o.1, o.2.1, s.2) := rfl

theorem rowOut_value {S : Type} [Inhabited E] [Inhabited Y] (dcGrid : List E) (ccGrid : List Y)
    (q : S → C → E → Y → Rat) (feas : S → C → E → Y → Bool) (s : S) (c : C) :
    (rowOut dcGrid ccGrid (q s) (feas s) c).2.2 = denseMaxAt dcGrid ccGrid q feas (s, c) := by
  show maskedMax (dcGrid.map fun e => ccvAt ccGrid q feas s c e) (dcGrid.map fun _ => true) = _
  rw [maskedMax_map, List.filter_eq_self.mpr fun _ _ => rfl]
  rfl

theorem argmaxBlock_map_spec {X : Type} [Inhabited X] (xs : List X) (v : X → Ext) (test : X → Bool)
    (hm : maskedMax (xs.map v) (xs.map test) ≠ .ninf) :
    let x := xs.getD (argmaxBlock (xs.map v) (xs.map test)).1 default
    x ∈ xs ∧ test x = true ∧ v x = maskedMax (xs.map v) (xs.map test) := by
  obtain ⟨hj, hmask, hval⟩ := argmaxBlock_spec _ _ (by simp) hm
  have hj' : (argmaxBlock (xs.map v) (xs.map test)).1 < xs.length := by simpa using hj
  simp only [List.getElem_map] at hmask hval
  intro x
  have hx : x = xs[(argmaxBlock (xs.map v) (xs.map test)).1] := (List.getElem_eq_getD default).symm
  exact hx ▸ ⟨List.getElem_mem _, hmask, hval⟩

theorem rowOut_attains [Inhabited E] [Inhabited Y] (dcGrid : List E) (ccGrid : List Y)
    (q : C → E → Y → Rat) (feas : C → E → Y → Bool) (c : C)
    (hfin : (rowOut dcGrid ccGrid q feas c).2.2 ≠ .ninf) :
    let o := rowOut dcGrid ccGrid q feas c
    o.1 ∈ dcGrid ∧ o.2.1 ∈ ccGrid ∧ feas c o.1 o.2.1 = true ∧ o.2.2 = .fin (q c o.1 o.2.1) := by
  intro o
  obtain ⟨he, _, hev⟩ := argmaxBlock_map_spec dcGrid
    (fun e => maskedMax (ccGrid.map fun y => Ext.fin (q c e y)) (ccGrid.map fun y => feas c e y)) (fun _ => true) hfin
  obtain ⟨hy, hym, hyv⟩ := argmaxBlock_map_spec ccGrid (fun y => Ext.fin (q c o.1 y)) (fun y => feas c o.1 y)
    (hev ▸ hfin)
  exact ⟨he, hy, hym, (hyv.trans hev).symm⟩

theorem simChoice_value [Inhabited C] [Inhabited E] [Inhabited Y] {n : Nat} (scGrid : List C)
    (dcGrid : List E) (ccGrid : List Y) (filt : Nat → C → Bool) (q : Nat → C → E → Y → Rat)
    (feas : Nat → C → E → Y → Bool) {k : Nat} (hk : k < n) :
    (simChoice n scGrid dcGrid ccGrid filt q feas k).2.2.2
      = foldMax ((scGrid.filter (filt k)).map fun c => (rowOut dcGrid ccGrid (q k) (feas k) c).2.2) :=
  segMaxAt_combos_ids (List.range n) List.nodup_range scGrid filt
    (fun r => (rowOut dcGrid ccGrid (q r.1) (feas r.1) r.2).2.2) k (List.mem_range.mpr hk)

/-- `simChoice` in closed form: the last filter-passing restricted choice whose row value attains
the maximum, together with what that row computes — a function of agent `k`'s own `filt k`, `q k`,
`feas k` only. `hne` cannot go: an agent without rows is handed row 0 of the whole batch (its value, −inf, is
`simChoice_value` all the same). -/
theorem simChoice_closed [Inhabited C] [Inhabited E] [Inhabited Y] (n : Nat) (scGrid : List C)
    (dcGrid : List E) (ccGrid : List Y) (filt : Nat → C → Bool) (q : Nat → C → E → Y → Rat)
    (feas : Nat → C → E → Y → Bool) (k : Nat) (hk : k < n) (hne : scGrid.filter (filt k) ≠ []) :
    simChoice n scGrid dcGrid ccGrid filt q feas k =
      let block := scGrid.filter (filt k)
      let vals := block.map fun c => (rowOut dcGrid ccGrid (q k) (feas k) c).2.2
      let c := block.getD (lastHit vals) default
      let o := rowOut dcGrid ccGrid (q k) (feas k) c
      (c, o.1, o.2.1, foldMax vals) := by
  rw [simChoice_eq]
  simp only []
  rw [segArgmaxAt_combos_ids List.nodup_range scGrid filt _ (List.mem_range.mpr hk) hne default,
    segArgmaxAt_snd, segMaxAt_combos_ids (List.range n) List.nodup_range scGrid filt _ k (List.mem_range.mpr hk)]
  rfl

theorem simChoice_alone [Inhabited C] [Inhabited E] [Inhabited Y] (n : Nat) (scGrid : List C)
    (dcGrid : List E) (ccGrid : List Y) (filt : Nat → C → Bool) (q : Nat → C → E → Y → Rat)
    (feas : Nat → C → E → Y → Bool) (k : Nat) (hk : k < n) (hne : scGrid.filter (filt k) ≠ []) :
    simChoice n scGrid dcGrid ccGrid filt q feas k
      = simChoice 1 scGrid dcGrid ccGrid (fun _ => filt k) (fun _ => q k) (fun _ => feas k) 0 := by
  rw [simChoice_closed n scGrid dcGrid ccGrid filt q feas k hk hne,
    simChoice_closed 1 scGrid dcGrid ccGrid (fun _ => filt k) (fun _ => q k) (fun _ => feas k) 0 Nat.one_pos hne]

/-- the shape `agentDecision` has: filter, objective and feasibility of agent `k` are `F`, `Q`, `Φ` at the `k`-th
state of the batch. C08 rests on this one. -/
theorem simChoice_own_state {S : Type} [Inhabited C] [Inhabited E] [Inhabited Y] (scGrid : List C) (dcGrid : List E)
    (ccGrid : List Y) (F : S → C → Bool) (Q : S → C → E → Y → Rat) (Φ : S → C → E → Y → Bool) {d : S}
    {B B' : List S} {i i' : Nat} (hi : i < B.length) (hi' : i' < B'.length) (hst : B.getD i d = B'.getD i' d)
    (hne : scGrid.filter (F (B.getD i d)) ≠ []) :
    simChoice B.length scGrid dcGrid ccGrid (fun k => F (B.getD k d)) (fun k => Q (B.getD k d))
        (fun k => Φ (B.getD k d)) i
      = simChoice B'.length scGrid dcGrid ccGrid (fun k => F (B'.getD k d)) (fun k => Q (B'.getD k d))
        (fun k => Φ (B'.getD k d)) i' := by
  rw [simChoice_closed _ _ _ _ _ _ _ i hi hne, simChoice_closed _ _ _ _ _ _ _ i' hi' (hst ▸ hne), hst]

#print axioms simChoice_alone

/-- R2, decision of one agent in one period. With `n` agents whose filters,
constraints and objectives are `filt i`, `feas i`, `q i`, agent `k`'s reported value is the maximum
over all its feasible grid choice combinations, and whenever that maximum is not −inf the reported
(restricted, unrestricted-discrete, continuous) choice is on the grids, passes the filter and the
constraints, and attains it — whatever the other agents in the batch are. -/
theorem simChoice_spec [Inhabited C] [Inhabited E] [Inhabited Y] (n : Nat) (scGrid : List C)
    (dcGrid : List E) (ccGrid : List Y) (filt : Nat → C → Bool) (q : Nat → C → E → Y → Rat)
    (feas : Nat → C → E → Y → Bool) (k : Nat) (hk : k < n) :
    let out := simChoice n scGrid dcGrid ccGrid filt q feas k
    IsMaxOver
      (fun x : C × (E × Y) =>
        (x.1 ∈ scGrid ∧ filt k x.1 = true) ∧
          (x.2.1 ∈ dcGrid ∧ (x.2.2 ∈ ccGrid ∧ feas k x.1 x.2.1 x.2.2 = true)))
      (fun x => q k x.1 x.2.1 x.2.2) out.2.2.2
    ∧ (out.2.2.2 ≠ .ninf →
        out.1 ∈ scGrid ∧ filt k out.1 = true ∧ out.2.1 ∈ dcGrid ∧ out.2.2.1 ∈ ccGrid ∧
        feas k out.1 out.2.1 out.2.2.1 = true ∧
        out.2.2.2 = .fin (q k out.1 out.2.1 out.2.2.1)) := by
  intro out
  have hval := simChoice_value scGrid dcGrid ccGrid filt q feas hk
  refine ⟨?_, fun hfin => ?_⟩
  · rw [hval]; simp only [rowOut_value]
    exact denseSeg_isMax scGrid dcGrid ccGrid filt q feas k
  -- a finite value: agent `k` has rows, the selected one is the last maximiser of its block
  have hne : scGrid.filter (filt k) ≠ [] := fun h => hfin (by rw [hval, h]; rfl)
  rw [show out = _ from simChoice_closed n scGrid dcGrid ccGrid filt q feas k hk hne]
  simp only []
  obtain ⟨hc, hvc⟩ := lastHit_map_spec
    (fun c => (rowOut dcGrid ccGrid (q k) (feas k) c).2.2) hne default
  have hmem := List.mem_filter.mp hc
  obtain ⟨h1, h2, h3, h4⟩ := rowOut_attains dcGrid ccGrid (q k) (feas k) _ (by rw [hvc, ← hval]; exact hfin)
  exact ⟨hmem.1, hmem.2, h1, h2, h3, hvc ▸ h4⟩

#print axioms simChoice_spec

theorem argmaxBlock_map_congr {X : Type} {l : List X} {a b : X → Ext} {test : X → Bool}
    (h : ∀ x ∈ l, test x = true → a x = b x) :
    argmaxBlock (l.map a) (l.map test) = argmaxBlock (l.map b) (l.map test) := by
  unfold argmaxBlock
  simp only []
  rw [maskedMax_map_congr h]
  congr 2
  rw [List.zip_map', List.zip_map', List.map_map, List.map_map]
  apply List.map_congr_left
  intro x hx
  simp only [Function.comp]
  cases ht : test x with
  | false => simp
  | true => simp only [h x hx ht]

theorem simChoice_congr [Inhabited C] [Inhabited E] [Inhabited Y] {n : Nat} {scGrid : List C} {dcGrid : List E}
    {ccGrid : List Y} {filt : Nat → C → Bool} (q q' : Nat → C → E → Y → Rat) (feas feas' : Nat → C → E → Y → Bool)
    (hf : ∀ k c e y, feas' k c e y = feas k c e y)
    (hq : ∀ k c e y, feas k c e y = true → q' k c e y = q k c e y) {k : Nat} :
    simChoice n scGrid dcGrid ccGrid filt q' feas' k = simChoice n scGrid dcGrid ccGrid filt q feas k := by
  obtain rfl : feas' = feas := by funext k c e y; exact hf k c e y
  have hpol : ∀ (r : Nat × C) (e : E),
      argmaxBlock (ccGrid.map fun y => Ext.fin (q' r.1 r.2 e y)) (ccGrid.map fun y => feas' r.1 r.2 e y)
        = argmaxBlock (ccGrid.map fun y => Ext.fin (q r.1 r.2 e y)) (ccGrid.map fun y => feas' r.1 r.2 e y) :=
    fun r e => argmaxBlock_map_congr fun y _ hy => congrArg Ext.fin (hq _ _ _ _ hy)
  unfold simChoice
  simp only [hpol]

end Lcm
