import LcmProofs.UtilityBody
import LcmProofs.Laws
namespace Lcm

/-! C11, first clause, for the executable model itself: replacing utility by `a·u + b` (a > 0) turns every entry of
every array returned by `solve` from `v` into `a·v + b·(1 + β + … + β^(T-1-t))` - for every layout, with continuation
values read by (multi)linear interpolation or extrapolation and averaged with transition rows that sum to one. `-inf` stays `-inf`.

The proof follows the definition of `solve` operation by operation; every operation of the pipeline commutes with a
positive affine map applied entrywise: the objective (`uAndF`), the masked max over continuous choices, `materialize`,
the max over dense choice axes, the segment max, and - through weights that sum to one - the interpolation and the
expectation of the continuation value. -/

def TEq (a c : Rat) (T' T : Tensor Ext) : Prop :=
  T'.shape = T.shape ∧ ∀ idx, T'.get idx = Ext.affine a c (T.get idx)

theorem TEq.materialize {a c : Rat} {T' T : Tensor Ext} (h : TEq a c T' T) : TEq a c T'.materialize T.materialize := by
  refine ⟨h.1, fun idx => ?_⟩
  -- read by flat position: beyond the end both sides are `default = -inf`, else the entry there and its image
  simp only [Tensor.materialize, Tensor.toFlat, h.1, List.map_congr_left fun i _ => h.2 i, getElem!_def,
    List.getElem?_toArray, List.getElem?_map]
  cases (allIdx T.shape)[ravel T.shape idx]? <;> rfl

theorem TEq.maxMid {a c : Rat} (ha : 0 < a) {T' T : Tensor Ext} (h : TEq a c T' T) (k n : Nat) :
    TEq a c (T'.maxMid k n) (T.maxMid k n) := by
  refine ⟨by simp only [Tensor.maxMid, h.1], fun idx => ?_⟩
  rw [maxMid_get, maxMid_get, h.1, ← foldMax_affine c ha, List.map_map]
  exact congrArg foldMax (List.map_congr_left fun j _ => h.2 _)

theorem TEq.segmentMax {a c : Rat} (ha : 0 < a) {T' T : Tensor Ext} (h : TEq a c T' T) (ids : List Nat) (num : Nat) :
    TEq a c (T'.segmentMax ids num) (T.segmentMax ids num) := by
  refine ⟨by rw [segmentMax_shape, segmentMax_shape, h.1], fun idx => ?_⟩
  cases idx with
  | nil => rfl
  | cons s rest =>
    rw [segmentMax_get, segmentMax_get, h.1, ← segMaxAt_affine c ha, List.map_map]
    exact congrArg (segMaxAt · ids s) (List.map_congr_left fun r _ => h.2 _)

theorem TEq.slice {a c : Rat} {T' T : Tensor Ext} (h : TEq a c T' T) (i : Nat) : TEq a c (T'.slice i) (T.slice i) :=
  ⟨congrArg List.tail h.1, fun _ => h.2 _⟩

/-- multilinear interpolation commutes with an affine map of the entries (the weights of every blend sum to one);
undefined (a touched corner is `-inf`) on both sides at once -/
theorem interpExt_affine (a c : Rat) (coords : List Rat) (T' T : Tensor Ext) (h : TEq a c T' T) :
    interpExt T' coords = (interpExt T coords).map fun q => a * q + c := by
  induction coords generalizing T' T with
  | nil =>
    simp only [interpExt, h.2 []]
    cases T.get [] <;> rfl
  | cons x xs ih =>
    simp only [interpExt, h.1]
    rw [ih _ _ (h.slice _), ih _ _ (h.slice _)]
    cases interpExt (T.slice (lowerIdx' x (T.shape.headD 0))) xs with
    | none => rfl
    | some u =>
      cases interpExt (T.slice (lowerIdx' x (T.shape.headD 0) + 1)) xs with
      | none => rfl
      | some v =>
        simp only [Option.bind_eq_bind, Option.bind_some, Option.map_some, Option.pure_def]
        congr 1
        ring

theorem vhat_affine {a c : Rat} (g : Groups) (feas : List (List (Name × Rat))) {V' V : Tensor Ext}
    (h : TEq a c V' V) (env : Env) :
    vhat g feas V' env = (vhat g feas V env).map fun q => a * q + c := by
  -- where the array is read does not depend on it: bind by bind (the leading index is bound in either branch of an `if`),
  -- down to the sub-array that is interpolated, which is the affine image of the sub-array of `V`
  refine bind_map_congr fun sLabels => ?_
  split <;> exact bind_map_congr fun lead => bind_map_congr fun dIdx => bind_map_congr fun coords =>
    interpExt_affine a c _ _ _ ⟨by simp only [h.1], fun idx => h.2 _⟩

theorem nodes_weight_sum (wrows : List (Name × List Rat)) (h : ∀ xw ∈ wrows, xw.2.sum = 1) :
    ((nodesOf wrows).map (·.2)).sum = 1 := by
  induction wrows with
  | nil => simp [nodesOf]
  | cons xw rest ih =>
    have key := nodes_cons_sum xw.1 xw.2 rest fun _ => 1
    simp only [mul_one, ih fun y hy => h y (List.mem_cons_of_mem _ hy)] at key
    rw [key, List.zipIdx_map_fst, h xw List.mem_cons_self]

/-- every row of every array of `params["shocks"]` sums to one - for every index prefix `deps`, in range or not -/
def RowsSumToOne (P : Params) : Prop :=
  ∀ xa ∈ P.shocks, ∀ deps : List Nat,
    ((List.range (xa.2.shape.getLastD 0)).map fun l => xa.2.get (deps ++ [l])).sum = 1

theorem wrowsOf_rows {m : Model} {P : Params} {env : Env} (hR : RowsSumToOne P) {wrows : List (Name × List Rat)}
    (h : wrowsOf m P env = some wrows) : ∀ xw ∈ wrows, xw.2.sum = 1 := by
  intro xw hxw
  obtain ⟨n, _, hn⟩ := mapM_some_mem (wrowsOf_eq m P env ▸ h) hxw
  obtain ⟨deps, xa, hxa, rfl⟩ := wrowFn_some hn
  exact hR xa hxa deps


structure AffineUtility (m m' : Model) (P : Params) (a b : Rat) : Prop extends SameButUtility m m' P where
  util : ∀ env, utilOf m' P env = (utilOf m P env).map fun u => a * u + b

variable {m m' : Model} {P : Params} {a b : Rat}

/-- the continuation of the affine image of an array: the weights of the expectation sum to one -/
theorem contOf_affine (hR : RowsSumToOne P) (g : Groups) (env : Env) (feas : List (List (Name × Rat)))
    {V' V : Tensor Ext} {c1 : Rat} (hV : TEq a c1 V' V) :
    contOf m P g env (V', feas) = (contOf m P g env (V, feas)).map fun ev => a * ev + c1 := by
  unfold contOf
  cases detOf m P env with
  | none => rfl
  | some det =>
    cases hw : wrowsOf m P env with
    | none => rfl
    | some W =>
      simp only [Option.bind_some, funext fun x => vhat_affine g feas hV (det ++ toEnv x), expect_map_affine,
        nodes_weight_sum W (wrowsOf_rows hR hw), mul_one]

theorem AffineUtility.valOf_none (h : AffineUtility m m' P a b) (g : Groups) (env : Env) :
    valOf m' P g none env = (valOf m P g none env).map fun q => a * q + b := by
  rw [Lcm.valOf_none, Lcm.valOf_none, h.util]

theorem AffineUtility.valOf_some (h : AffineUtility m m' P a b) (hR : RowsSumToOne P) (g : Groups)
    (feas : List (List (Name × Rat))) {V' V : Tensor Ext} {c1 : Rat} (hV : TEq a c1 V' V) (env : Env) :
    valOf m' P g (some (V', feas)) env
      = (valOf m P g (some (V, feas)) env).map fun q => a * q + (b + P.beta * c1) := by
  simp only [valOf, h.util, h.contOf, contOf_affine hR g _ feas hV]
  cases utilOf m P env with
  | none => rfl
  | some u =>
    cases contOf m P g env (V, feas) with
    | none => rfl
    | some ev => simp only [Option.map_some, Option.bind_some]; congr 1; ring

theorem AffineUtility.objRel (h : AffineUtility m m' P a b) {g : Groups} {c : Rat}
    {next next' : Option (Tensor Ext × List (List (Name × Rat)))}
    (hval : ∀ env, valOf m' P g next' env = (valOf m P g next env).map fun q => a * q + c) (t : Nat) (e : Env) :
    ObjRel (Ext.affine a c) (uAndF m' P g t next' e) (uAndF m P g t next e) := by
  rw [uAndF_eq, uAndF_eq, h.constraints, hval]
  cases allTrue m P (e ++ periodEnv t) (constraintNames m) <;> cases valOf m P g next (e ++ periodEnv t) <;>
    exact ⟨rfl, fun _ => rfl⟩


theorem solvePeriod_affine {P' : Params} {g : Groups} {t t' : Nat} {c : Rat}
    {next next' : Option (Tensor Ext × List (List (Name × Rat)))} (ha : 0 < a)
    (hQ : ∀ e, ObjRel (Ext.affine a c) (uAndF m' P' g t' next' e) (uAndF m P g t next e)) (sp : Space) :
    TEq a c (solvePeriod m' P' g t' sp next') (solvePeriod m P g t sp next) := by
  have hc := ccvEnv_rel (maskedMax_affine c ha) hQ
  unfold solvePeriod
  simp only []
  split
  · have h0 : TEq a c (ccvSparse m' P' g t' sp next') (ccvSparse m P g t sp next) :=
      ⟨rfl, fun idx => by cases idx with | nil => rfl | cons r rest => exact hc _⟩
    exact ((h0.materialize.maxMid ha _ _).segmentMax ha _ _).materialize
  · have h0 : TEq a c (ccvDense m' P' g t' next') (ccvDense m P g t next) := ⟨rfl, fun idx => hc _⟩
    exact (h0.materialize.maxMid ha _ _).materialize

/-- **C11, affine law, for the executable `solve`, every period**: `j` periods before the end every entry `v` becomes
`a·v + b·(1 + β + … + β^j)`; `-inf` stays `-inf` -/
theorem bw_affine (h : AffineUtility m m' P a b) (ha : 0 < a) (hR : RowsSumToOne P) (j : Nat) :
    TEq a (b * geo P.beta (j + 1)) (bw m' P true j).1 (bw m P true j).1 :=
  bw_rel (fun j => TEq a (b * geo P.beta (j + 1))) h.grp (fun j => by rw [h.periods]; exact h.mkSpace _ _)
    (fun sp => by
      rw [h.periods, show b * geo P.beta (0 + 1) = b by simp [geo]]
      exact solvePeriod_affine ha (h.objRel (h.valOf_none _) _) sp)
    (fun j sp feas V' V hV => by
      rw [h.periods, show b * geo P.beta (j + 1 + 1) = b + P.beta * (b * geo P.beta (j + 1)) by rw [geo]; ring]
      exact solvePeriod_affine ha (h.objRel (h.valOf_some hR _ feas hV) _) sp) j

theorem solve_affine (h : AffineUtility m m' P a b) (ha : 0 < a) (hR : RowsSumToOne P) {j : Nat} (hj : j < m.nPeriods) :
    TEq a (b * geo P.beta (j + 1))
      ((solve m' P true).getD (m.nPeriods - 1 - j) default) ((solve m P true).getD (m.nPeriods - 1 - j) default) := by
  have := solve_getD_rel (bw_affine h ha hR) hj (h.periods ▸ hj)
  rwa [h.periods] at this

#print axioms solve_affine

/-! The specification obtained from `m` by replacing the body `u` of its utility function by `a·u + b` satisfies
`AffineUtility`: nothing else changes, provided no function takes the *value* of utility as an argument. -/

def affBody (a b : Rat) (f : Func) : Func :=
  if f.name == "utility" then { f with body := .add (.mul (.num a) f.body) (.num b) } else f

def withAffineUtility (m : Model) (a b : Rat) : Model := { m with functions := m.functions.map (affBody a b) }

theorem withAffineUtility_eq (m : Model) (a b : Rat) :
    withAffineUtility m a b = withUtility m fun u => .add (.mul (.num a) u) (.num b) := rfl

theorem eval_affine (a b : Rat) (body : Expr) (env : Env) :
    (Expr.add (.mul (.num a) body) (.num b)).eval env = (body.eval env).map fun v => Val.num (a * v.toRat + b) := by
  simp only [Expr.eval]
  cases body.eval env <;> rfl

theorem utilOf_with {m : Model} (a b : Rat) (P : Params) (hno : ∀ f ∈ m.functions, "utility" ∉ f.args) (env : Env) :
    utilOf (withAffineUtility m a b) P env = (utilOf m P env).map fun u => a * u + b := by
  unfold utilOf
  rw [withAffineUtility_eq, (sameSig_withUtility m _).fuel, callF_withU_utility P hno (eval_affine a b)]
  cases callF m P m.fuel env "utility" <;> rfl

theorem affineUtility_with {m : Model} (a b : Rat) (P : Params)
    (hno : ∀ f ∈ m.functions, "utility" ∉ f.args)
    (hnames : ∀ fi ∈ functionInfo m, (fi.isConstraint = true ∨ fi.isFilter = true ∨ fi.isNext = true) → fi.name ≠ "utility") :
    AffineUtility m (withAffineUtility m a b) P a b :=
  -- `F` is given: left to unify `withAffineUtility m a b` with `withUtility m ?F`, Lean times out
  { sameButUtility_withUtility (fun u => .add (.mul (.num a) u) (.num b)) P hno hnames with
    util := utilOf_with a b P hno }

#print axioms affineUtility_with

end Lcm
