import LcmModel.Solve
import LcmProofs.Tensor
namespace Lcm

/-! The backward loop of `solve`: chronological list, period t computed from period t+1. -/

/-- value array of period `T-1-j`, defined by recursion from the last period backwards; `shift` is the `shiftIndexers` of
`solve` (which feasible states the continuation is handed: those of the next period, or of this one) -/
def bw (m : Model) (P : Params) (shift : Bool) : Nat → Tensor Ext × Space
  | 0 =>
    let t := m.nPeriods - 1
    let sp := mkSpace m P (groups m) t
    (solvePeriod m P (groups m) t sp none, sp)
  | j + 1 =>
    let t := m.nPeriods - 1 - (j + 1)
    let sp := mkSpace m P (groups m) t
    let prev := bw m P shift j
    (solvePeriod m P (groups m) t sp (some (prev.1, if shift then prev.2.feas else sp.feas)), sp)

/-- one iteration of the loop at period `k`, started from what the loop holds then (nothing before the last period,
otherwise the result for period `k + 1`), computes `bw` for period `k` -/
theorem bw_eq_iteration {m : Model} (P : Params) (shift : Bool) {k : Nat} (hk : k < m.nPeriods) :
    (solvePeriod m P (groups m) k (mkSpace m P (groups m) k)
      ((if k + 1 = m.nPeriods then none else some (bw m P shift (m.nPeriods - 1 - (k + 1)))).map
        fun x => (x.1, if shift = true then x.2.feas else (mkSpace m P (groups m) k).feas)),
      mkSpace m P (groups m) k) = bw m P shift (m.nPeriods - 1 - k) := by
  -- the two equations of `bw`; `j = 0` is the last period
  rcases hj : m.nPeriods - 1 - k with _ | j
  · rw [if_pos (by omega), bw, show m.nPeriods - 1 = k by omega]
    rfl
  · -- `T - 1 - (k + 1) = T - 1 - k - 1 = j`, and `T - 1 - (j + 1) = T - 1 - (T - 1 - k) = k`
    rw [if_neg (by omega), show m.nPeriods - 1 - (k + 1) = j by rw [← Nat.sub_sub, hj, Nat.add_sub_cancel], bw,
      show m.nPeriods - 1 - (j + 1) = k by rw [← hj, Nat.sub_sub_self (Nat.le_sub_one_of_lt hk)]]
    rfl

/-- invariant of the loop: with `k` periods left to do (periods k-1, …, 0), the loop holds period `k`'s result and
`acc`, the arrays of periods k, …, T-1 -/
theorem go_eq (m : Model) (P : Params) (shift : Bool) (k : Nat) (hk : k ≤ m.nPeriods) (acc : List (Tensor Ext)) :
    solve.go m P shift (groups m) k
        (if k = m.nPeriods then none else some (bw m P shift (m.nPeriods - 1 - k))) acc
      = ((List.range k).map fun t => (bw m P shift (m.nPeriods - 1 - t)).1) ++ acc := by
  induction k generalizing acc with
  | zero => rfl
  | succ k ih =>
    have hV := bw_eq_iteration P shift hk
    -- its first component, with the projection of the pair reduced here: left to a unifier, that unfolds the model
    have hV1 := congrArg Prod.fst hV
    dsimp only at hV1
    have ih' := ih (by omega) ((bw m P shift (m.nPeriods - 1 - k)).1 :: acc)
    rw [if_neg (by omega)] at ih'
    -- the iteration computes `bw` for period `k` (`hV`): it becomes the loop's state and the head of `acc`
    rw [solve.go, hV, hV1, ih', List.range_succ, List.map_append, List.append_assoc]
    rfl

/-- **`solve` returns one array per period in chronological order, and the array of period `t` is
`solvePeriod` applied to the array of period `t+1` (none in the last period)** -/
theorem solve_eq (m : Model) (P : Params) (shift : Bool) :
    solve m P shift = (List.range m.nPeriods).map fun t => (bw m P shift (m.nPeriods - 1 - t)).1 := by
  have := go_eq m P shift m.nPeriods (Nat.le_refl _) []
  rwa [if_pos rfl, List.append_nil] at this

theorem solve_length (m : Model) (P : Params) (shift : Bool) : (solve m P shift).length = m.nPeriods := by
  rw [solve_eq]; simp

theorem bw_snd (m : Model) (P : Params) (shift : Bool) (j : Nat) :
    (bw m P shift j).2 = mkSpace m P (groups m) (m.nPeriods - 1 - j) := by
  cases j <;> rfl

theorem solve_getD_eq_bw {m : Model} (P : Params) (shift : Bool) {t : Nat} (ht : t < m.nPeriods) :
    (solve m P shift).getD t default = (bw m P shift (m.nPeriods - 1 - t)).1 := by
  rw [solve_eq, getD_map_range ht]

theorem solve_getD_bw {m : Model} (P : Params) (shift : Bool) {j : Nat} (hj : j < m.nPeriods) :
    (solve m P shift).getD (m.nPeriods - 1 - j) default = (bw m P shift j).1 := by
  rw [solve_getD_eq_bw P shift (by omega), Nat.sub_sub_self (Nat.le_sub_one_of_lt hj)]

theorem solve_eq_of_bw {m m' : Model} {P P' : Params} {shift : Bool} (hT : m'.nPeriods = m.nPeriods)
    (h : ∀ j, (bw m' P' shift j).1 = (bw m P shift j).1) : solve m' P' shift = solve m P shift := by
  rw [solve_eq, solve_eq, hT]
  exact List.map_congr_left fun _ _ => h _

#print axioms solve_eq
end Lcm
