namespace Lcm

/-! Facts about lists and `Option` that mention nothing of the model. -/

theorem range_map_getD {α β} (l : List α) (d : α) (F : α → β) :
    (List.range l.length).map (fun r => F (l.getD r d)) = l.map F := by
  induction l with
  | nil => rfl
  | cons x xs ih =>
    rw [List.length_cons, List.range_succ_eq_map, List.map_cons, List.map_map, List.map_cons, ← ih]
    rfl

theorem getD_map_range {α} {F : Nat → α} {n i : Nat} (hi : i < n) (d : α) :
    ((List.range n).map F).getD i d = F i := by
  rw [List.getD_eq_getElem?_getD, List.getElem?_map, List.getElem?_range hi]
  rfl

theorem zipIdx_range_map {α} (F : Nat → α) (T : Nat) :
    ((List.range T).map F).zipIdx = (List.range T).map fun t => (F t, t) := by
  rw [List.zipIdx_map, List.zipIdx_eq_zip_range', List.length_range, ← List.range_eq_range', List.zip_eq_zipWith,
    List.zipWith_self, List.map_map]
  rfl

theorem getD_mid {α} (A : List α) {B : List α} (Cc : List α) {j : Nat} (hj : j < B.length) (d : α) :
    (A ++ B ++ Cc).getD (A.length + j) d = B.getD j d := by
  simp only [List.getD_eq_getElem?_getD]
  rw [List.getElem?_append_left (by simp; omega), List.getElem?_append_right (by omega),
    Nat.add_sub_cancel_left]

theorem mul_add_lt_mul {i n j c : Nat} (hi : i < n) (hj : j < c) : i * c + j < n * c :=
  calc i * c + j < i * c + c := by omega
    _ = (i + 1) * c := by rw [Nat.add_mul, Nat.one_mul]
    _ ≤ n * c := Nat.mul_le_mul_right _ hi

theorem length_flatMap_blocks {β} {f : Nat → List β} {c : Nat} (hf : ∀ i, (f i).length = c) (n : Nat) :
    ((List.range n).flatMap f).length = n * c := by
  simp only [List.length_flatMap, hf, List.map_const', List.sum_replicate_nat, List.length_range]

theorem getElem?_flatMap_blocks {β} (f : Nat → List β) (c : Nat) (hf : ∀ i, (f i).length = c)
    {n i j : Nat} (hi : i < n) (hj : j < c) :
    ((List.range n).flatMap f)[i * c + j]? = (f i)[j]? := by
  induction n with
  | zero => omega
  | succ m ihm =>
    rw [List.range_succ, List.flatMap_append]
    have hlen := length_flatMap_blocks hf m
    by_cases him : i < m
    · rw [List.getElem?_append_left]
      · exact ihm him
      · rw [hlen]; exact mul_add_lt_mul him hj
    · have : i = m := by omega
      subst this
      rw [List.getElem?_append_right (by rw [hlen]; omega), hlen]
      simp

theorem mapM_congr_option {α β} {l : List α} {f g : α → Option β} (h : ∀ a ∈ l, f a = g a) :
    l.mapM f = l.mapM g := by
  induction l with
  | nil => rfl
  | cons a l ih =>
    simp only [List.mapM_cons]
    rw [h a (by simp), ih (fun b hb => h b (List.mem_cons_of_mem _ hb))]

theorem mapM_cons_some {α β} {f : α → Option β} {a : α} {l : List α} {r : List β} :
    (a :: l).mapM f = some r ↔ ∃ b r', f a = some b ∧ l.mapM f = some r' ∧ r = b :: r' := by
  simp only [List.mapM_cons, Option.bind_eq_bind, Option.bind_eq_some_iff, Option.pure_def, Option.some.injEq]
  exact ⟨fun ⟨b, hb, r', hr', e⟩ => ⟨b, r', hb, hr', e.symm⟩, fun ⟨b, r', hb, hr', e⟩ => ⟨b, hb, r', hr', e.symm⟩⟩

theorem mapM_some_mem {α β} {f : α → Option β} {l : List α} {r : List β} (h : l.mapM f = some r) {b : β}
    (hb : b ∈ r) : ∃ a ∈ l, f a = some b := by
  induction l generalizing r with
  | nil => cases h; cases hb
  | cons a l ih =>
    obtain ⟨b', r', hab, hr', rfl⟩ := mapM_cons_some.mp h
    rcases List.mem_cons.mp hb with rfl | hb
    · exact ⟨a, List.mem_cons_self, hab⟩
    · obtain ⟨a', ha', hfa⟩ := ih hr' hb
      exact ⟨a', List.mem_cons_of_mem _ ha', hfa⟩

theorem mapM_some_map {α β κ} {f : α → Option β} {l : List α} {r : List β} (h : l.mapM f = some r)
    (key : α → κ) (key' : β → κ) (hk : ∀ a b, f a = some b → key' b = key a) : r.map key' = l.map key := by
  induction l generalizing r with
  | nil => cases h; rfl
  | cons a l ih =>
    obtain ⟨b, r', hab, hr', rfl⟩ := mapM_cons_some.mp h
    rw [List.map_cons, List.map_cons, hk a b hab, ih hr']

theorem mapM_perm_some {α β : Type} {f : α → Option β} {l l' : List α} (h : l.Perm l') {r : List β}
    (hr : l.mapM f = some r) : ∃ r', l'.mapM f = some r' ∧ r.Perm r' := by
  induction h generalizing r with
  | nil => exact ⟨r, hr, .refl r⟩
  | cons x _ ih =>
    obtain ⟨b, r₁, hb, hr₁, rfl⟩ := mapM_cons_some.mp hr
    obtain ⟨r₁', hr₁', hp⟩ := ih hr₁
    exact ⟨b :: r₁', mapM_cons_some.mpr ⟨b, r₁', hb, hr₁', rfl⟩, hp.cons b⟩
  | swap x y l =>
    obtain ⟨b, r₁, hb, hr₁, rfl⟩ := mapM_cons_some.mp hr
    obtain ⟨c, r₂, hc, hr₂, rfl⟩ := mapM_cons_some.mp hr₁
    exact ⟨c :: b :: r₂, mapM_cons_some.mpr ⟨c, _, hc, mapM_cons_some.mpr ⟨b, r₂, hb, hr₂, rfl⟩, rfl⟩, .swap c b r₂⟩
  | trans _ _ ih1 ih2 =>
    obtain ⟨r₁, hr₁, hp₁⟩ := ih1 hr
    obtain ⟨r₂, hr₂, hp₂⟩ := ih2 hr₁
    exact ⟨r₂, hr₂, hp₁.trans hp₂⟩

theorem mapM_bind_perm {α β γ : Type} {f : α → Option β} {l l' : List α} (h : l.Perm l')
    {G G' : List β → Option γ} (hG : ∀ r r', l.mapM f = some r → r.Perm r' → G r = G' r') :
    (l.mapM f).bind G = (l'.mapM f).bind G' := by
  cases h1 : l.mapM f with
  | some r =>
    obtain ⟨r', h2, hp⟩ := mapM_perm_some h h1
    rw [h2]
    exact hG r r' h1 hp
  | none =>
    cases h2 : l'.mapM f with
    | none => rfl
    | some r' =>
      obtain ⟨r, h1', _⟩ := mapM_perm_some h.symm h2
      rw [h1] at h1'
      cases h1'

theorem bind_map_congr {α β γ : Type} {o : Option α} {f : α → Option β} {f' : α → Option γ} {φ : β → γ}
    (h : ∀ x, f' x = (f x).map φ) : (o >>= f') = (o >>= f).map φ := by
  cases o with
  | none => rfl
  | some x => exact h x

/-! Search by a pairwise distinct key (dict semantics): the lookup returns the member with that key, whatever the
order of the list - for environments, assignments, grids, functions and function infos alike. -/

section
variable {α κ : Type} [DecidableEq κ] (key : α → κ)

theorem find?_key_of_mem {l : List α} (hnd : (l.map key).Nodup) {a : α} (ha : a ∈ l) :
    l.find? (fun x => key x == key a) = some a := by
  induction l with
  | nil => simp at ha
  | cons b l ih =>
    simp only [List.map_cons, List.nodup_cons] at hnd
    rcases List.mem_cons.mp ha with rfl | hmem
    · simp [List.find?]
    · have hne : (key b == key a) = false := by
        rw [beq_eq_false_iff_ne]
        exact fun h => hnd.1 (h ▸ List.mem_map_of_mem (f := key) hmem)
      simp only [List.find?, hne]
      exact ih hnd.2 hmem

theorem find?_key_eq_none {l : List α} {k : κ} (h : k ∉ l.map key) : l.find? (fun x => key x == k) = none :=
  List.find?_eq_none.mpr fun _ ha hak => h (beq_iff_eq.mp hak ▸ List.mem_map_of_mem (f := key) ha)

theorem find?_key_perm {l l' : List α} (hp : l.Perm l') (hnd : (l.map key).Nodup) (k : κ) :
    l.find? (fun x => key x == k) = l'.find? (fun x => key x == k) := by
  by_cases hk : k ∈ l.map key
  · obtain ⟨a, ha, rfl⟩ := List.mem_map.mp hk
    rw [find?_key_of_mem key hnd ha, find?_key_of_mem key ((hp.map key).nodup_iff.mp hnd) (hp.mem_iff.mp ha)]
  · rw [find?_key_eq_none key hk, find?_key_eq_none key fun h => hk ((hp.map key).mem_iff.mpr h)]

end

theorem find?_map_key {α β κ} [DecidableEq κ] (l : List α) (key : α → κ) (G : κ → β) (x : κ) (hx : x ∈ l.map key) :
    (l.map fun a => (key a, G (key a))).find? (·.1 == x) = some (x, G x) := by
  induction l with
  | nil => exact absurd hx List.not_mem_nil
  | cons a rest ih =>
    rw [List.map_cons, List.find?_cons]
    by_cases ha : key a = x
    · simp only [ha, beq_self_eq_true]
    · rw [show ((key a, G (key a)).1 == x) = false from beq_false_of_ne ha]
      exact ih ((List.mem_cons.mp hx).resolve_left (Ne.symm ha))

/-- searching a list of pairwise distinct members for its `k`-th member finds position `k` (the state indexer on the
feasible states) -/
theorem findIdx?_beq_getElem {α : Type} [DecidableEq α] {l : List α} (hnd : l.Nodup) {k : Nat} (hk : k < l.length) :
    l.findIdx? (· == l[k]) = some k := by
  rw [List.findIdx?_eq_some_iff_getElem]
  refine ⟨hk, by simp, fun j hjk h => ?_⟩
  exact List.pairwise_iff_getElem.mp hnd j k (by omega) hk hjk (by simpa using h)

theorem findIdx?_beq_eq_none {α : Type} [DecidableEq α] {l : List α} {a : α} (h : a ∉ l) :
    l.findIdx? (· == a) = none :=
  List.findIdx?_eq_none_iff.mpr fun _ hx => beq_eq_false_iff_ne.mpr fun e => h (e ▸ hx)

theorem contains_congr {α} [BEq α] [LawfulBEq α] {l l' : List α} (h : ∀ x, x ∈ l' ↔ x ∈ l) (x : α) : l'.contains x = l.contains x := by
  rw [Bool.eq_iff_iff, List.contains_iff_mem, List.contains_iff_mem, h x]

theorem filter_filter_of_imp {α} {l : List α} {p q : α → Bool} (h : ∀ v ∈ l, p v = true → q v = true) :
    (l.filter q).filter p = l.filter p := by
  rw [List.filter_filter]
  exact List.filter_congr fun v hv => by cases hp : p v <;> simp [h v hv, hp]

theorem perm_three_filters {α} {l : List α} {p q r : α → Bool}
    (h : ∀ v ∈ l, (p v = true ∧ q v = false ∧ r v = false) ∨ (p v = false ∧ q v = true ∧ r v = false) ∨
      (p v = false ∧ q v = false ∧ r v = true)) :
    (l.filter p ++ l.filter q ++ l.filter r).Perm l := by
  induction l with
  | nil => simp
  | cons a l ih =>
    have ih' := ih (fun v hv => h v (List.mem_cons_of_mem _ hv))
    rcases h a List.mem_cons_self with ⟨h1, h2, h3⟩ | ⟨h1, h2, h3⟩ | ⟨h1, h2, h3⟩ <;>
      simp only [List.filter_cons, h1, h2, h3, if_true, Bool.false_eq_true, if_false]
    · exact ih'.cons a
    · exact (List.perm_middle.append_right _).trans (ih'.cons a)
    · exact List.perm_middle.trans (ih'.cons a)

end Lcm
