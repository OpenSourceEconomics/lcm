import LcmModel.Space
import Mathlib.Algebra.Order.Field.Rat
import Mathlib.Data.List.Perm.Basic
import LcmModel.Argmax
namespace Lcm
variable {S C : Type}

theorem Ext.max_ninf_left (a : Ext) : Ext.max .ninf a = a := by cases a <;> rfl
theorem Ext.max_ninf_right (a : Ext) : Ext.max a .ninf = a := by cases a <;> rfl

/-- on finite values `Ext.max` is `max`: with the two lemmas above every fact below is the fact about `Rat` -/
theorem Ext.max_fin (a b : Rat) : Ext.max (.fin a) (.fin b) = .fin (Max.max a b) := by rw [max_def]; rfl

theorem Ext.max_assoc (a b c : Ext) : Ext.max (Ext.max a b) c = Ext.max a (Ext.max b c) := by
  cases a <;> cases b <;> cases c <;>
    simp only [Ext.max_ninf_left, Ext.max_ninf_right, Ext.max_fin, _root_.max_assoc]

theorem Ext.max_comm (x y : Ext) : Ext.max x y = Ext.max y x := by
  cases x <;> cases y <;> simp only [Ext.max_ninf_left, Ext.max_ninf_right, Ext.max_fin, _root_.max_comm]

theorem Ext.max_eq_or (a b : Ext) : Ext.max a b = a ∨ Ext.max a b = b := by
  cases a <;> cases b <;>
    simp only [Ext.max_ninf_left, Ext.max_ninf_right, Ext.max_fin, Ext.fin.injEq, true_or, or_true]
  exact max_choice _ _

def Ext.le : Ext → Ext → Prop
  | .ninf, _ => True
  | .fin _, .ninf => False
  | .fin a, .fin b => a ≤ b

theorem Ext.not_fin_le_ninf (q : Rat) : ¬ Ext.le (.fin q) .ninf := id

theorem Ext.le_refl (a : Ext) : Ext.le a a := by cases a <;> simp only [Ext.le, _root_.le_refl]

theorem Ext.le_max_left (a b : Ext) : Ext.le a (Ext.max a b) := by
  cases a <;> cases b <;>
    simp only [Ext.max_ninf_right, Ext.max_fin, Ext.le, _root_.le_refl, _root_.le_max_left]
theorem Ext.le_max_right (a b : Ext) : Ext.le b (Ext.max a b) := by
  cases a <;> cases b <;>
    simp only [Ext.max_ninf_left, Ext.max_fin, Ext.le, _root_.le_refl, _root_.le_max_right]
theorem Ext.le_trans {a b c : Ext} (h1 : Ext.le a b) (h2 : Ext.le b c) : Ext.le a c := by
  cases a <;> cases b <;> cases c <;> simp only [Ext.le] at *
  exact _root_.le_trans h1 h2

theorem Ext.le_antisymm {a b : Ext} (h1 : Ext.le a b) (h2 : Ext.le b a) : a = b := by
  cases a <;> cases b <;> simp_all [Ext.le]
  exact _root_.le_antisymm h1 h2

def Ext.affine (a b : Rat) : Ext → Ext
  | .ninf => .ninf
  | .fin q => .fin (a * q + b)

theorem Ext.affine_max {a : Rat} (b : Rat) (ha : 0 < a) (x y : Ext) :
    Ext.affine a b (Ext.max x y) = Ext.max (Ext.affine a b x) (Ext.affine a b y) := by
  cases x <;> cases y <;> simp only [Ext.max, Ext.affine, ← max_def]
  rw [max_add_add_right, mul_max_of_nonneg _ _ ha.le]

theorem foldl_max_init (xs : List Ext) (a : Ext) :
    xs.foldl Ext.max a = Ext.max a (foldMax xs) := by
  induction xs generalizing a with
  | nil => simp [foldMax, Ext.max_ninf_right]
  | cons x xs ih =>
    simp only [foldMax, List.foldl_cons]
    rw [ih, ih (Ext.max .ninf x), Ext.max_ninf_left, Ext.max_assoc]

theorem foldMax_append (xs ys : List Ext) :
    foldMax (xs ++ ys) = Ext.max (foldMax xs) (foldMax ys) := by
  simp only [foldMax, List.foldl_append]
  rw [foldl_max_init]; rfl

theorem foldMax_nil : foldMax [] = .ninf := rfl

theorem foldMax_cons (x : Ext) (xs : List Ext) : foldMax (x :: xs) = Ext.max x (foldMax xs) := by
  simpa [foldMax, Ext.max_ninf_left] using foldMax_append [x] xs

theorem le_foldMax {xs : List Ext} {x : Ext} (h : x ∈ xs) : Ext.le x (foldMax xs) := by
  induction xs with
  | nil => simp at h
  | cons y ys ih =>
    rw [foldMax_cons]
    rcases List.mem_cons.mp h with rfl | h
    · exact Ext.le_max_left _ _
    · exact Ext.le_trans (ih h) (Ext.le_max_right _ _)

theorem foldMax_mem {xs : List Ext} (h : xs ≠ []) : foldMax xs ∈ xs := by
  induction xs with
  | nil => simp at h
  | cons y ys ih =>
    rw [foldMax_cons]
    by_cases hy : ys = []
    · subst hy; simp [foldMax_nil, Ext.max_ninf_right]
    · rcases Ext.max_eq_or y (foldMax ys) with e | e
      · rw [e]; simp
      · rw [e]; exact List.mem_cons_of_mem _ (ih hy)

theorem foldMax_eq_ninf_iff {xs : List Ext} : foldMax xs = .ninf ↔ ∀ x ∈ xs, x = .ninf := by
  constructor
  · intro h x hx
    exact Ext.le_antisymm (h ▸ le_foldMax hx) trivial
  · intro h
    by_cases hxs : xs = []
    · rw [hxs]; rfl
    · exact h _ (foldMax_mem hxs)

theorem foldMax_affine {a : Rat} (b : Rat) (ha : 0 < a) (xs : List Ext) :
    foldMax (xs.map (Ext.affine a b)) = Ext.affine a b (foldMax xs) := by
  induction xs with
  | nil => rfl
  | cons x xs ih => rw [List.map_cons, foldMax_cons, foldMax_cons, ih, Ext.affine_max b ha]

theorem foldMax_perm {xs ys : List Ext} (h : xs.Perm ys) : foldMax xs = foldMax ys :=
  haveI : RightCommutative Ext.max := ⟨fun a b c => by rw [Ext.max_assoc, Ext.max_comm b c, ← Ext.max_assoc]⟩
  h.foldl_eq _

#print axioms foldMax_perm

/-! `maskedMax` (`P` = "unmasked") and `segMaxAt` (`P` = "id is `k`") are both `foldMax` of the selection
`(xs.zip ys).filterMap fun q => if P q.2 then some q.1 else none`. -/

theorem mem_zip_select {β : Type} (xs : List Ext) (ys : List β) (P : β → Prop) [DecidablePred P] (i : Nat)
    (hx : i < xs.length) (hy : i < ys.length) (h : P ys[i]) :
    xs[i] ∈ (xs.zip ys).filterMap fun q => if P q.2 then some q.1 else none :=
  List.mem_filterMap.mpr ⟨(xs[i], ys[i]), List.mem_iff_getElem.mpr ⟨i, by simp; omega, List.getElem_zip⟩, if_pos h⟩

theorem zip_select_eq_nil {α β : Type} (xs : List α) (ys : List β) (P : β → Prop) [DecidablePred P]
    (h : ∀ y ∈ ys, ¬ P y) : ((xs.zip ys).filterMap fun q => if P q.2 then some q.1 else none) = [] :=
  List.filterMap_eq_nil_iff.mpr fun q hq => if_neg (h q.2 (List.of_mem_zip hq).2)

theorem foldMax_zip_select_attained {β : Type} (xs : List Ext) (ys : List β) (P : β → Prop) [DecidablePred P]
    (hne : ((xs.zip ys).filterMap fun q => if P q.2 then some q.1 else none) ≠ []) :
    ∃ i, ∃ (hx : i < xs.length) (hy : i < ys.length), P ys[i] ∧
      xs[i] = foldMax ((xs.zip ys).filterMap fun q => if P q.2 then some q.1 else none) := by
  obtain ⟨q, hq, hqv⟩ := List.mem_filterMap.mp (foldMax_mem hne)
  obtain ⟨i, hi, rfl⟩ := List.getElem_of_mem hq
  rw [List.length_zip] at hi
  simp only [List.getElem_zip, Option.ite_none_right_eq_some, Option.some.injEq] at hqv
  exact ⟨i, by omega, by omega, hqv⟩

theorem filterMap_zip_map {α β γ : Type} (φ : α → γ) (sel : β → Prop) [DecidablePred sel] (xs : List α) (ys : List β) :
    ((xs.map φ).zip ys).filterMap (fun p => if sel p.2 then some p.1 else none)
      = (((xs.zip ys).filterMap fun p => if sel p.2 then some p.1 else none)).map φ := by
  rw [List.zip_map_left, List.filterMap_map, List.map_filterMap]
  refine List.filterMap_congr fun p _ => ?_
  by_cases h : sel p.2 <;> simp [h]

theorem le_maskedMax (xs : List Ext) (mask : List Bool) (i : Nat) (hi : i < xs.length)
    (hm : i < mask.length) (hmi : mask[i] = true) : Ext.le xs[i] (maskedMax xs mask) :=
  le_foldMax (mem_zip_select xs mask (· = true) i hi hm hmi)

#print axioms le_maskedMax

theorem maskedMax_map {X : Type} (l : List X) (a : X → Ext) (test : X → Bool) :
    maskedMax (l.map a) (l.map test) = foldMax ((l.filter test).map a) := by
  unfold maskedMax
  congr 1
  induction l with
  | nil => rfl
  | cons x xs ih =>
    simp only [List.map_cons, List.zip_cons_cons, List.filterMap_cons, List.filter_cons]
    cases test x <;> simp [ih]

theorem maskedMax_map_congr {X : Type} {l : List X} {a b : X → Ext} {test : X → Bool}
    (h : ∀ x ∈ l, test x = true → a x = b x) :
    maskedMax (l.map a) (l.map test) = maskedMax (l.map b) (l.map test) := by
  rw [maskedMax_map, maskedMax_map]
  exact congrArg foldMax (List.map_congr_left fun x hx => h x (List.mem_filter.mp hx).1 (List.mem_filter.mp hx).2)

theorem maskedMax_all_false (xs : List Ext) {mask : List Bool} (h : ∀ b ∈ mask, b = false) :
    maskedMax xs mask = .ninf :=
  congrArg foldMax (zip_select_eq_nil xs mask (· = true) fun b hb hbt => Bool.false_ne_true ((h b hb).symm.trans hbt))

theorem maskedMax_affine {a : Rat} (c : Rat) (ha : 0 < a) (xs : List Ext) (mask : List Bool) :
    maskedMax (xs.map (Ext.affine a c)) mask = Ext.affine a c (maskedMax xs mask) := by
  unfold maskedMax
  rw [← foldMax_affine c ha, ← filterMap_zip_map (Ext.affine a c) (· = true)]

theorem combos_cons (s : S) (rest : List S) (scGrid : List C) (filt : S → C → Bool) :
    combos (s :: rest) scGrid filt
      = ((scGrid.filter (filt s)).map fun c => (s, c)) ++ combos rest scGrid filt := by
  simp [combos, List.filter_map, Function.comp_def]

theorem combos_eq_flatMap (ss : List S) (sc : List C) (filt : S → C → Bool) :
    combos ss sc filt = ss.flatMap fun s => (sc.filter (filt s)).map fun c => (s, c) := by
  induction ss with
  | nil => rfl
  | cons s rest ih => rw [combos_cons, ih, List.flatMap_cons]

theorem mem_combos (ss : List S) (sc : List C) (filt : S → C → Bool) (p : S × C) :
    p ∈ combos ss sc filt ↔ p.1 ∈ ss ∧ p.2 ∈ sc ∧ filt p.1 p.2 = true := by
  simp only [combos, List.mem_filter, List.mem_flatMap, List.mem_map]
  constructor
  · rintro ⟨⟨s, hs, c, hc, rfl⟩, hf⟩; exact ⟨hs, hc, hf⟩
  · rintro ⟨hs, hc, hf⟩; exact ⟨⟨p.1, hs, p.2, hc, rfl⟩, hf⟩

theorem combos_length (ss : List S) (sc : List C) (filt : S → C → Bool) :
    (combos ss sc filt).length = (ss.map fun s => (sc.filter (filt s)).length).sum := by
  rw [combos_eq_flatMap]
  simp

theorem combos_feasStates (ss : List S) (sc : List C) (filt : S → C → Bool) :
    combos (feasStates ss sc filt) sc filt = combos ss sc filt := by
  induction ss with
  | nil => rfl
  | cons s rest ih =>
    by_cases hs : sc.any (filt s) = true
    · rw [show feasStates (s :: rest) sc filt = s :: feasStates rest sc filt by
        simp [feasStates, hs], combos_cons, combos_cons, ih]
    · have hempty : sc.filter (filt s) = [] :=
        List.filter_eq_nil_iff.mpr fun c hc hf => hs (List.any_eq_true.mpr ⟨c, hc, hf⟩)
      rw [show feasStates (s :: rest) sc filt = feasStates rest sc filt by
        simp [feasStates, hs], combos_cons, hempty, ih]; rfl

theorem repeatArange_cons (c : Nat) (cs : List Nat) (off : Nat) :
    repeatArange (c :: cs) off = List.replicate c off ++ repeatArange cs (off + 1) := by
  simp [repeatArange]

theorem repeatArange_length (cs : List Nat) (off : Nat) : (repeatArange cs off).length = cs.sum := by
  induction cs generalizing off with
  | nil => simp [repeatArange]
  | cons c cs ih => rw [repeatArange_cons]; simp [ih]

theorem mem_repeatArange_ge {cs : List Nat} {off x : Nat} (h : x ∈ repeatArange cs off) : off ≤ x := by
  induction cs generalizing off with
  | nil => simp [repeatArange] at h
  | cons c cs ih =>
    rw [repeatArange_cons] at h
    rcases List.mem_append.mp h with h | h
    · have := (List.mem_replicate.mp h).2; omega
    · have := ih h; omega

theorem zip_append_of_length {α β} (a1 a2 : List α) (b1 b2 : List β) (h : a1.length = b1.length) :
    (a1 ++ a2).zip (b1 ++ b2) = a1.zip b1 ++ a2.zip b2 := List.zip_append h

theorem segMaxAt_append {vals1 vals2 : List Ext} {ids1 ids2 : List Nat} {k : Nat} (h : vals1.length = ids1.length) :
    segMaxAt (vals1 ++ vals2) (ids1 ++ ids2) k
      = Ext.max (segMaxAt vals1 ids1 k) (segMaxAt vals2 ids2 k) := by
  simp only [segMaxAt, List.zip_append h, List.filterMap_append, foldMax_append]

theorem segMaxAt_replicate_self (vals : List Ext) (k : Nat) :
    segMaxAt vals (List.replicate vals.length k) k = foldMax vals := by
  unfold segMaxAt; congr 1
  induction vals with
  | nil => rfl
  | cons v vs ih => simp [List.replicate_succ, ih]

theorem segMaxAt_of_not_mem (vals : List Ext) {ids : List Nat} {k : Nat} (h : k ∉ ids) :
    segMaxAt vals ids k = .ninf :=
  congrArg foldMax (zip_select_eq_nil vals ids (· = k) fun _ hy hyk => h (hyk ▸ hy))

theorem segMaxAt_affine {a : Rat} (c : Rat) (ha : 0 < a) (xs : List Ext) (ids : List Nat) (k : Nat) :
    segMaxAt (xs.map (Ext.affine a c)) ids k = Ext.affine a c (segMaxAt xs ids k) := by
  unfold segMaxAt
  rw [← foldMax_affine c ha, ← filterMap_zip_map (Ext.affine a c) (· = k)]

theorem segMaxAt_flatMap {α : Type} (xs : List α) (id : α → Nat) (blk : α → List Ext) (k : Nat) :
    segMaxAt (xs.flatMap blk) (xs.flatMap fun x => List.replicate (blk x).length (id x)) k
      = foldMax ((xs.filter fun x => id x = k).flatMap blk) := by
  induction xs with
  | nil => rfl
  | cons x xs ih =>
    rw [List.flatMap_cons, List.flatMap_cons, segMaxAt_append List.length_replicate.symm,
      ih, List.filter_cons]
    by_cases h : id x = k
    · rw [if_pos (decide_eq_true h), List.flatMap_cons, foldMax_append, h, segMaxAt_replicate_self]
    · rw [if_neg (by simpa using h),
        segMaxAt_of_not_mem _ fun hm => h (List.eq_of_mem_replicate hm).symm, Ext.max_ninf_left]

theorem segMaxAt_flatMap_repeatArange {α : Type} {xs : List α} (blk : α → List Ext) (off : Nat) {k : Nat}
    (hk : k < xs.length) :
    segMaxAt (xs.flatMap blk) (repeatArange (xs.map fun x => (blk x).length) off) (k + off)
      = foldMax (blk xs[k]) := by
  induction xs generalizing off k with
  | nil => exact absurd hk (Nat.not_lt_zero _)
  | cons x xs ih =>
    rw [List.flatMap_cons, List.map_cons, repeatArange_cons,
      segMaxAt_append List.length_replicate.symm]
    cases k with
    | zero =>
      rw [Nat.zero_add, segMaxAt_replicate_self, segMaxAt_of_not_mem _ fun h =>
        Nat.lt_irrefl _ (mem_repeatArange_ge h), Ext.max_ninf_right]; rfl
    | succ k' =>
      rw [segMaxAt_of_not_mem _ fun h => by
        have := List.eq_of_mem_replicate h; omega, Ext.max_ninf_left,
        show k' + 1 + off = k' + (off + 1) by omega]
      exact ih (off + 1) (Nat.lt_of_succ_lt_succ hk)

theorem segMaxAt_flatMap_self {ss : List Nat} (hnd : ss.Nodup) (blk : Nat → List Ext) {k : Nat}
    (hk : k ∈ ss) :
    segMaxAt (ss.flatMap blk) (ss.flatMap fun s => List.replicate (blk s).length s) k
      = foldMax (blk k) := by
  rw [segMaxAt_flatMap ss (fun s => s), List.filter_eq, hnd.count, if_pos hk]
  simp

/-- the segment max over the stored rows, with the ids of `create_indexers_and_segments`, is for segment
`k` the max over the filter-passing choices of the `k`-th feasible state -/
theorem segMaxAt_combos (ssGrid : List S) (scGrid : List C) (filt : S → C → Bool)
    (g : S × C → Ext) (k : Nat) (hk : k < (feasStates ssGrid scGrid filt).length) :
    segMaxAt ((combos ssGrid scGrid filt).map g) (segIdsImpl ssGrid scGrid filt) k
      = foldMax ((scGrid.filter (filt ((feasStates ssGrid scGrid filt)[k]))).map
          fun c => g ((feasStates ssGrid scGrid filt)[k], c)) := by
  rw [← combos_feasStates]
  simpa [segIdsImpl, combos_eq_flatMap, List.map_flatMap, Function.comp_def] using
    segMaxAt_flatMap_repeatArange (fun s => (scGrid.filter (filt s)).map fun c => g (s, c)) 0 hk

#print axioms segMaxAt_combos

end Lcm
