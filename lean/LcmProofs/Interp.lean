import LcmModel.Interp
import Mathlib.Tactic.Ring

namespace Lcm

/-- The clipped cell, characterised without `floor`: it lies in `[0, n-2]`, its lower node is `≤ c` unless it is the first
cell, and its upper node is `> c` unless it is the last cell. Every fact about `lowerIdx` below follows from this. -/
theorem lowerIdx_spec (c : Rat) {n : Nat} (h2 : 2 ≤ n) :
    lowerIdx c n + 2 ≤ n ∧ (0 < lowerIdx c n → (lowerIdx c n : Rat) ≤ c) ∧
      (lowerIdx c n + 2 < n → c < (lowerIdx c n : Rat) + 1) := by
  have hlo : ((lowerIdx c n : Nat) : Int) = max 0 (min c.floor (n - 2)) :=
    Int.toNat_of_nonneg (le_max_left _ _)
  refine ⟨by omega, fun h => ?_, fun h => ?_⟩
  · have : ((lowerIdx c n : Nat) : Int) ≤ c.floor := by omega
    exact_mod_cast Rat.le_floor_iff.mp this
  · have : c.floor < ((lowerIdx c n : Nat) : Int) + 1 := by omega
    exact_mod_cast Rat.floor_lt_iff.mp this

theorem blend_at_node (f : Nat → Rat) {i n : Nat} (hi : i < n) (h2 : 2 ≤ n) :
    (1 - ((i : Rat) - (lowerIdx i n : Rat))) * f (lowerIdx i n)
      + ((i : Rat) - (lowerIdx i n : Rat)) * f (lowerIdx i n + 1) = f i := by
  obtain ⟨h, hl, hu⟩ := lowerIdx_spec i h2
  generalize lowerIdx i n = lo at *
  norm_cast at hl hu
  -- the cell is `i`, with weight 0 on the upper neighbour, or (at the last node) `i - 1`, with weight 1
  obtain rfl | rfl : lo = i ∨ lo + 1 = i := by omega
  · ring
  · push_cast; ring

/-- in-bounds read -/
def NArr.get : NArr → List Nat → Option Rat
  | .scalar x, [] => some x
  | .scalar _, _ :: _ => none
  | .arr _, [] => none
  | .arr xs, i :: is => match xs[i]? with | some a => a.get is | none => none

/-- Regular: every level has length ≥ 2 given by shape -/
inductive Shaped : NArr → List Nat → Prop
  | scalar (x) : Shaped (.scalar x) []
  | arr (xs : List NArr) (n : Nat) (s : List Nat) (hlen : xs.length = n) (h2 : 2 ≤ n)
      (h : ∀ a ∈ xs, Shaped a s) : Shaped (.arr xs) (n :: s)

theorem interp_at_nodes (a : NArr) (shape : List Nat) (hs : Shaped a shape)
    (idx : List Nat) (hidx : List.Forall₂ (fun i n => i < n) idx shape) :
    some (interpRec a (idx.map (fun (i : Nat) => (i : Rat)))) = a.get idx := by
  induction hs generalizing idx with
  | scalar x => cases hidx; rfl
  | arr xs n s hlen h2 h ih =>
    obtain _ | ⟨hi, hrest⟩ := hidx
    rename_i i is
    subst hlen
    simp only [List.map_cons, interpRec, NArr.get]
    -- not `rw`: this `match` and the one `interpRec` unfolds to are different matcher constants, equal only up to unfolding
    refine (congrArg some (blend_at_node (fun k => match xs[k]? with
      | some a => interpRec a (is.map fun (i : Nat) => (i : Rat)) | none => 0)
      hi h2)).trans ?_
    rw [List.getElem?_eq_getElem hi]
    exact ih _ (List.getElem_mem hi) is hrest

#print axioms interp_at_nodes
end Lcm
