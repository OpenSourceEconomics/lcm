import LcmModel.Input
import Mathlib.Data.String.Basic
namespace Lcm

theorem mem_insertName (x y : Name) (ys : List Name) : y ∈ insertName x ys ↔ y = x ∨ y ∈ ys := by
  induction ys with
  | nil => simp [insertName]
  | cons z zs ih =>
    unfold insertName
    split
    · simp
    · split
      · rename_i _ hxz; subst hxz; simp
      · simp only [List.mem_cons, ih]
        exact or_left_comm

theorem insertName_sorted (x : Name) {ys : List Name} (h : ys.Pairwise (· < ·)) :
    (insertName x ys).Pairwise (· < ·) := by
  induction ys with
  | nil => simp [insertName]
  | cons y ys ih =>
    rw [List.pairwise_cons] at h
    unfold insertName
    split_ifs with h1 h2
    · refine List.pairwise_cons.mpr ⟨fun z hz => ?_, List.pairwise_cons.mpr h⟩
      rcases List.mem_cons.mp hz with rfl | hz
      · exact h1
      · exact lt_trans h1 (h.1 z hz)
    · exact List.pairwise_cons.mpr h
    · refine List.pairwise_cons.mpr ⟨fun z hz => ?_, ih h.2⟩
      rw [mem_insertName] at hz
      rcases hz with rfl | hz
      · exact lt_of_le_of_ne (not_lt.mp h1) (Ne.symm h2)
      · exact h.1 z hz

theorem mem_sortNames (y : Name) (xs : List Name) : y ∈ sortNames xs ↔ y ∈ xs := by
  induction xs with
  | nil => simp [sortNames]
  | cons x xs ih =>
    rw [List.mem_cons, ← ih]
    exact mem_insertName x y (sortNames xs)

theorem mem_functionParams (m : Model) (f : Func) (p : Name) :
    p ∈ sortNames (f.args.filter fun a =>
        !(m.functions.map (·.name) ++ m.choices.map (·.1) ++ m.states.map (·.1) ++ ["_period"]).contains a)
      ↔ p ∈ f.args ∧ p ∉ m.functions.map (·.name) ∧ p ∉ m.choices.map (·.1) ∧
          p ∉ m.states.map (·.1) ∧ p ≠ "_period" := by
  rw [mem_sortNames]
  simp only [List.mem_filter, Bool.not_eq_true', List.contains_eq_mem, List.mem_append,
    List.mem_cons, List.not_mem_nil, or_false, decide_eq_false_iff_not, not_or, and_assoc]

#print axioms mem_functionParams
end Lcm
