import LcmProofs.SimLoop
import LcmProofs.SpecRefine
namespace Lcm
attribute [local irreducible] groups

/-! The stored entries of `solve`, addressed by the named grid state they belong to (`EntryOf`): an entry is the value
`simulate` computes for an agent in that state (`EntryOf.simValue_eq`: both are *the* maximum of the same objective
over the same admissible set) and the value `specV` of the specification level (`EntryOf.get_eq_specV`). What is
stated through `EntryOf` does not tell the two layouts of the value array apart - with or without a leading axis of
feasible restricted-state combinations. -/

theorem simValue_eq_entry {m : Model} {P : Params} {t : Nat} (ht : t < m.nPeriods)
    (hsparse : (!((groups m).sS.isEmpty && (groups m).sC.isEmpty)) = true)
    {k : Nat} (hk : k < (feasOf m P t).length) {dIdx xIdx : List Nat}
    (hd : InBounds (sizes (groups m).dS) dIdx) (hx : InBounds (sizes (cStateGrids (groups m))) xIdx)
    {states : List (List (Name × Rat))} {i : Nat} (hi : i < states.length)
    (hEnv : ∀ c ∈ assignments (groups m).sC, ∀ e ∈ assignments (groups m).dC, ∀ y ∈ assignments (groups m).cC,
      EnvEq (toEnv (states.getD i [] ++ c ++ e ++ y))
        (toEnv ((feasOf m P t)[k]'hk ++ c) ++
          toEnv (pickAt (groups m).dS dIdx ++ e ++ pickAt (cStateGrids (groups m)) xIdx) ++ toEnv y))
    (hFilt : ∀ c ∈ assignments (groups m).sC,
      agentFilt m P (groups m) t (states.getD i []) c = spaceFilt m P t ((feasOf m P t)[k]'hk) c) :
    (agentDecision m P (groups m) t (simNext m P (solve m P true) t) states i).value
      = ((solve m P true).getD t default).get (k :: (dIdx ++ xIdx)) := by
  have hobj : ∀ c ∈ assignments (groups m).sC, ∀ e ∈ assignments (groups m).dC, ∀ y ∈ assignments (groups m).cC,
      agentObj m P (groups m) t (simNext m P (solve m P true) t) (states.getD i []) c e y
        = objAt m P (groups m) t (nextOf m P (solve m P true) t) ((feasOf m P t)[k]'hk) dIdx xIdx c e y :=
    -- `simNext` and `nextOf` are the same `if` (`simNext_eq_nextOf`); here and below the terms rely on it silently
    fun c hc e he y hy => uAndF_congr_env m P (groups m) t _ (hEnv c hc e he y hy)
  -- both sides are *the* maximum of the same objective over the same admissible set
  refine ((agentDecision_spec m P (groups m) t _ states i hi).2.1.congr ?_ ?_).unique
    (solve_entry_isMax_restricted m P t ht hsparse k hk dIdx xIdx hd hx)
  · intro x
    constructor <;> rintro ⟨⟨h1, h2⟩, h3, h4, h5⟩
    · exact ⟨⟨h1, hFilt _ h1 ▸ h2⟩, h3, h4, hobj _ h1 _ h3 _ h4 ▸ h5⟩
    · exact ⟨⟨h1, (hFilt _ h1).symm ▸ h2⟩, h3, h4, (hobj _ h1 _ h3 _ h4).symm ▸ h5⟩
  · rintro x ⟨⟨h1, _⟩, h3, h4, _⟩
    exact congrArg valueOf (hobj _ h1 _ h3 _ h4)

theorem simValue_eq_entry_unrestricted {m : Model} (P : Params) {t : Nat} (ht : t < m.nPeriods)
    (hdense : (!((groups m).sS.isEmpty && (groups m).sC.isEmpty)) = false)
    {dIdx xIdx : List Nat}
    (hd : InBounds (sizes (groups m).dS) dIdx) (hx : InBounds (sizes (cStateGrids (groups m))) xIdx)
    {states : List (List (Name × Rat))} {i : Nat} (hi : i < states.length)
    (hEnv : ∀ e y, e ∈ assignments (groups m).dC → y ∈ assignments (groups m).cC →
      EnvEq (toEnv (states.getD i [] ++ [] ++ e ++ y))
        (toEnv (pickAt (groups m).dS dIdx ++ e ++ pickAt (cStateGrids (groups m)) xIdx) ++ toEnv y)) :
    (agentDecision m P (groups m) t (simNext m P (solve m P true) t) states i).value
      = ((solve m P true).getD t default).get (dIdx ++ xIdx) := by
  have hsC := List.isEmpty_iff.mpr (unrestricted_nil hdense).2
  have hobj : ∀ e y, e ∈ assignments (groups m).dC → y ∈ assignments (groups m).cC →
      agentObj m P (groups m) t (simNext m P (solve m P true) t) (states.getD i []) [] e y
        = objAtDense m P (groups m) t (nextOf m P (solve m P true) t) dIdx xIdx e y :=
    fun e y he hy => uAndF_congr_env m P (groups m) t _ (hEnv e y he hy)
  -- the agent's triples `([], e, y)` and the pairs `(e, y)` of the array entry correspond
  refine ((agentDecision_spec m P (groups m) t _ states i hi).2.1.transfer ?_ ?_).unique
    (solve_entry_isMax_unrestricted m P t ht hdense dIdx xIdx hd hx)
  · rintro ⟨c, e, y⟩ ⟨⟨h1, _⟩, h3, h4, h5⟩
    obtain rfl := (mem_assignments_of_isEmpty hsC).mp h1
    exact ⟨(e, y), ⟨h3, h4, hobj e y h3 h4 ▸ h5⟩, congrArg valueOf (hobj e y h3 h4).symm⟩
  · rintro ⟨e, y⟩ ⟨h3, h4, h5⟩
    exact ⟨([], e, y), ⟨⟨(mem_assignments_of_isEmpty hsC).mpr rfl, agentFilt_of_isEmpty hsC⟩,
      h3, h4, (hobj e y h3 h4).symm ▸ h5⟩, congrArg valueOf (hobj e y h3 h4)⟩

/-- index `idx` of the period-`t` array of `solve` addresses the named grid state `st`: behind a leading axis of
feasible restricted-state combinations if the specification has filter-restricted variables, directly otherwise -/
inductive EntryOf (m : Model) (P : Params) (t : Nat) : List Nat → List (Name × Rat) → Prop
  | restricted (hsparse : (!((groups m).sS.isEmpty && (groups m).sC.isEmpty)) = true)
      (k : Nat) (hk : k < (feasOf m P t).length) (dIdx xIdx : List Nat)
      (hd : InBounds (sizes (groups m).dS) dIdx) (hx : InBounds (sizes (cStateGrids (groups m))) xIdx) :
      EntryOf m P t (k :: (dIdx ++ xIdx))
        ((feasOf m P t)[k]'hk ++ pickAt (groups m).dS dIdx ++ pickAt (cStateGrids (groups m)) xIdx)
  | unrestricted (hdense : (!((groups m).sS.isEmpty && (groups m).sC.isEmpty)) = false) (dIdx xIdx : List Nat)
      (hd : InBounds (sizes (groups m).dS) dIdx) (hx : InBounds (sizes (cStateGrids (groups m))) xIdx) :
      EntryOf m P t (dIdx ++ xIdx) (pickAt (groups m).dS dIdx ++ pickAt (cStateGrids (groups m)) xIdx)

variable {m : Model} {P : Params} {t : Nat} {idx : List Nat} {st : List (Name × Rat)}

/-- **solve and simulate agree**: if the variable names are pairwise distinct and agent `i`'s period-`t` state is - as a
set of (name, value) pairs - the grid state an entry belongs to, the simulated value is that entry. The environments
agree by `env_on_grid`, the filters by `filt_on_feasible`. -/
theorem EntryOf.simValue_eq (he : EntryOf m P t idx st) (ht : t < m.nPeriods)
    {states : List (List (Name × Rat))} {i : Nat} (hi : i < states.length)
    (hnames : (allNames (groups m)).Nodup) (hst : (states.getD i []).Perm st) :
    (agentDecision m P (groups m) t (simNext m P (solve m P true) t) states i).value
      = ((solve m P true).getD t default).get idx := by
  cases he with
  | restricted hsparse k hk dIdx xIdx hd hx =>
    have hs : (feasOf m P t)[k] ∈ feasOf m P t := List.getElem_mem hk
    exact simValue_eq_entry ht hsparse hk hd hx hi
      (fun c hc e he y hy => env_on_grid (groups m) hnames _ _ c e y dIdx xIdx (mem_feasOf.mp hs).1 hc he hy
        (inBounds_sizes_length hd) (inBounds_sizes_length hx) hst)
      (fun c hc => filt_on_feasible hnames hs hc
        (inBounds_sizes_length hd) (inBounds_sizes_length hx) hst)
  | unrestricted hdense dIdx xIdx hd hx =>
    obtain ⟨hsS, hsC⟩ := unrestricted_nil hdense
    refine simValue_eq_entry_unrestricted P ht hdense hd hx hi fun e y he hy => ?_
    -- the grid state has no restricted part: `s = []`, `c = []`
    exact env_on_grid (groups m) hnames (states.getD i []) [] [] e y dIdx xIdx
      (by rw [hsS]; exact List.mem_singleton.mpr rfl) (by rw [hsC]; exact List.mem_singleton.mpr rfl)
      he hy (inBounds_sizes_length hd) (inBounds_sizes_length hx) hst

theorem EntryOf.keys_nodup (he : EntryOf m P t idx st) (hnd : ((m.states ++ m.choices).map (·.1)).Nodup) :
    (st.map (·.1) ++ m.choices.map (·.1)).Nodup := by
  rw [List.map_append] at hnd
  have hall := ((state_names_perm m).append (.refl (m.choices.map (·.1)))).nodup_iff.mpr hnd
  cases he with
  | restricted _ k hk dIdx xIdx hd hx =>
    simp only [List.map_append]
    rw [assignments_keys (mem_feasOf.mp (List.getElem_mem hk)).1,
      pickAt_keys (inBounds_sizes_length hd), pickAt_keys (inBounds_sizes_length hx)]
    exact hall
  | unrestricted hdense dIdx xIdx hd hx =>
    simp only [List.map_append]
    rw [pickAt_keys (inBounds_sizes_length hd), pickAt_keys (inBounds_sizes_length hx)]
    rw [(unrestricted_nil hdense).1] at hall
    simpa using hall

/-- Without a restricted choice `simulate` evaluates no filter, so R2 at the specification level asks that the filters
hold at the state: by feasibility if there are restricted states; otherwise by assumption (`hfs`: such filters read no
variable, and `solve` does not evaluate them either). -/
theorem EntryOf.filters_hold (he : EntryOf m P t idx st)
    (hfs : (!((groups m).sS.isEmpty && (groups m).sC.isEmpty)) = false →
      allTrue m P (toEnv st ++ periodEnv t) (filterNames m) = some true)
    (hsC : (groups m).sC.isEmpty = true) : allTrue m P (toEnv st ++ periodEnv t) (filterNames m) = some true := by
  cases he with
  | restricted _ k hk dIdx xIdx hd hx =>
    rw [List.append_assoc]
    exact filters_hold_on_feasible (List.getElem_mem hk) hsC
      (dense_state_keys_not_read (inBounds_sizes_length hd) (inBounds_sizes_length hx))
  | unrestricted hdense _ _ _ _ => exact hfs hdense

/-- The proof goes through `simulate`: a batch of one agent sitting at the grid state has the entry as its value
(`simValue_eq`), and R2 at the specification level (`specAgent_best_eq_value`) says that value is `specV`. -/
theorem EntryOf.get_eq_specV (he : EntryOf m P t idx st) (ht : t < m.nPeriods)
    (hnd : ((m.states ++ m.choices).map (·.1)).Nodup)
    (hfs : (!((groups m).sS.isEmpty && (groups m).sC.isEmpty)) = false →
      allTrue m P (toEnv st ++ periodEnv t) (filterNames m) = some true) :
    ((solve m P true).getD t default).get idx = specV m P (groups m) t (nextOf m P (solve m P true) t) st := by
  have hsim := he.simValue_eq ht (states := [st]) Nat.one_pos (allNames_nodup hnd) (List.Perm.refl _)
  have hspec := specAgent_best_eq_value m P t (simNext m P (solve m P true) t) [st] 0 Nat.one_pos hnd
    (he.keys_nodup hnd) (he.filters_hold hfs) []
  rw [specV_eq_best m P (groups m) t _ st []]
  exact hsim.symm.trans hspec.symm

theorem EntryOf.get_eq_specV_last (he : EntryOf m P t idx st) (ht : t + 1 = m.nPeriods)
    (hnd : ((m.states ++ m.choices).map (·.1)).Nodup)
    (hfs : (!((groups m).sS.isEmpty && (groups m).sC.isEmpty)) = false →
      allTrue m P (toEnv st ++ periodEnv t) (filterNames m) = some true) :
    ((solve m P true).getD t default).get idx = specV m P (groups m) t none st := by
  rw [he.get_eq_specV (by omega) hnd hfs, nextOf_last P ht.ge]

theorem entryOf_of_inBounds (ht : t < m.nPeriods) (hidx : InBounds ((solve m P true).getD t default).shape idx) :
    ∃ st, EntryOf m P t idx st := by
  rw [solve_shape P ht] at hidx
  cases hsp : !((groups m).sS.isEmpty && (groups m).sC.isEmpty) with
  | true =>
    simp only [hsp, if_true, List.singleton_append] at hidx
    obtain ⟨k, rest, rfl, hk, hrest⟩ := inBounds_cons_iff.mp hidx
    obtain ⟨dIdx, xIdx, rfl, hd, hx⟩ := inBounds_split hrest
    exact ⟨_, .restricted hsp k hk dIdx xIdx hd hx⟩
  | false =>
    simp only [hsp, Bool.false_eq_true, if_false, List.nil_append] at hidx
    obtain ⟨dIdx, xIdx, rfl, hd, hx⟩ := inBounds_split hidx
    exact ⟨_, .unrestricted hsp dIdx xIdx hd hx⟩

end Lcm
