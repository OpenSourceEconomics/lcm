import LcmProofs.Congr
import Mathlib.Data.List.Perm.Basic
namespace Lcm

/-! Environments, assignments and functions are searched by a pairwise distinct key (`find?_key_perm`, Lists.lean), so
their order does not matter. -/

theorem envEq_of_perm_env {a b : Env} (hp : a.Perm b) (hnd : (a.map (·.1)).Nodup) : EnvEq a b :=
  fun x => congrArg (Option.map Prod.snd) (find?_key_perm Prod.fst hp hnd x)

theorem toEnv_keys (a : List (Name × Rat)) : (toEnv a).map (·.1) = a.map (·.1) := by
  simp [toEnv]

theorem envEq_of_perm (a b : List (Name × Rat)) (hp : a.Perm b) (hnd : (a.map (·.1)).Nodup) :
    EnvEq (toEnv a) (toEnv b) :=
  envEq_of_perm_env (hp.map _) ((toEnv_keys a).symm ▸ hnd)

theorem toEnv_append (a b : List (Name × Rat)) : toEnv (a ++ b) = toEnv a ++ toEnv b := by simp [toEnv]

theorem pickAt_keys {l : List (Name × List Rat)} {idx : List Nat} (h : idx.length = l.length) :
    (pickAt l idx).map (·.1) = l.map (·.1) := by
  unfold pickAt
  conv_rhs => rw [← List.map_fst_zip (l₁ := l) (l₂ := idx) (by omega), List.map_map]
  rw [List.map_map]
  rfl

#print axioms envEq_of_perm

/-- `hnd`: in lcm the functions of a model are the values of a dict keyed by name -/
theorem callF_perm_functions {m : Model} {fs' : List Func} (hp : m.functions.Perm fs')
    (hnd : (m.functions.map (·.name)).Nodup) (P : Params) (fuel : Nat) (e : Env) (fname : Name) :
    callF m P fuel e fname = callF { m with functions := fs' } P fuel e fname :=
  callF_congr_funcs m { m with functions := fs' } (find?_key_perm Func.name hp hnd) P fuel e fname

#print axioms callF_perm_functions

def IsAssignment (q : Name × List Rat) (p : Name × Rat) : Prop := p.1 = q.1 ∧ p.2 ∈ q.2

theorem mem_assignments_iff {l : List (Name × List Rat)} {a : List (Name × Rat)} :
    a ∈ assignments l ↔ List.Forall₂ IsAssignment l a := by
  induction l generalizing a with
  | nil => simp only [assignments, List.mem_singleton, List.forall₂_nil_left_iff]
  | cons q rest ih =>
    simp only [assignments, List.mem_flatMap, List.mem_map, List.forall₂_cons_left_iff, ih, IsAssignment]
    constructor
    · rintro ⟨v, hv, a', ha', rfl⟩
      exact ⟨(q.1, v), a', ⟨rfl, hv⟩, ha', rfl⟩
    · rintro ⟨⟨y, v⟩, a', ⟨rfl, hv⟩, ha', rfl⟩
      exact ⟨v, hv, a', ha', rfl⟩

theorem assignments_keys {l : List (Name × List Rat)} {a : List (Name × Rat)} (ha : a ∈ assignments l) :
    a.map (·.1) = l.map (·.1) := by
  have h := mem_assignments_iff.mp ha
  clear ha
  induction h with
  | nil => rfl
  | cons h _ ih => rw [List.map_cons, List.map_cons, h.1, ih]

theorem assignments_perm (l l' : List (Name × List Rat)) (h : l'.Perm l) (a : List (Name × Rat))
    (ha : a ∈ assignments l) : ∃ a' ∈ assignments l', a'.Perm a := by
  obtain ⟨a', h1, h2⟩ := List.perm_comp_forall₂ h (mem_assignments_iff.mp ha)
  exact ⟨a', mem_assignments_iff.mpr h1, h2⟩

theorem mem_assignments_append {l1 l2 : List (Name × List Rat)} {a : List (Name × Rat)} :
    a ∈ assignments (l1 ++ l2) ↔ ∃ a1 ∈ assignments l1, ∃ a2 ∈ assignments l2, a = a1 ++ a2 := by
  induction l1 generalizing a with
  | nil => simp [assignments]
  | cons q rest ih =>
    obtain ⟨x, g⟩ := q
    simp only [List.cons_append, assignments, List.mem_flatMap, List.mem_map]
    constructor
    · rintro ⟨v, hv, a', ha', rfl⟩
      obtain ⟨a1, h1, a2, h2, rfl⟩ := ih.mp ha'
      exact ⟨(x, v) :: a1, ⟨v, hv, a1, h1, rfl⟩, a2, h2, rfl⟩
    · rintro ⟨a1, ⟨v, hv, a1', h1, rfl⟩, a2, h2, rfl⟩
      exact ⟨v, hv, a1' ++ a2, ih.mpr ⟨a1', h1, a2, h2, rfl⟩, rfl⟩

theorem mem_assignments_of_isEmpty {l : List (Name × List Rat)} (h : l.isEmpty = true) {a : List (Name × Rat)} :
    a ∈ assignments l ↔ a = [] := by
  rw [List.isEmpty_iff.mp h]; exact List.mem_singleton

#print axioms assignments_perm
#print axioms mem_assignments_append
end Lcm
