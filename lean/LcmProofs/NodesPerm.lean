import LcmProofs.Objective
import LcmProofs.EnvPerm
namespace Lcm

/-! The expectation over the stochastic nodes does not depend on the order in which the stochastic transition functions
are declared: the node list of a permuted list of rows is a rearrangement (of the nodes and inside each node), the
weights are products, and the sum is commutative. -/

theorem flatMap_comm_perm {α β γ : Type} (xs : List α) (ys : List β) (f : α → β → List γ) :
    (xs.flatMap fun x => ys.flatMap fun y => f x y).Perm (ys.flatMap fun y => xs.flatMap fun x => f x y) := by
  induction xs with
  | nil => simp
  | cons x xs ih =>
    simp only [List.flatMap_cons]
    refine (List.Perm.append_left _ ih).trans ?_
    exact List.flatMap_append_perm ys (fun y => f x y) (fun y => xs.flatMap fun x' => f x' y)

/-- `K` gives the same answer on rearranged assignments of the given keys -/
def InvOn (K : List (Name × Rat) → Option Rat) (keys : List Name) : Prop :=
  ∀ a a', a.Perm a' → (a.map (·.1)).Perm keys → K a = K a'

/-- the continuation value reads the labels of a node by name -/
theorem vhat_invOn (g : Groups) (feas : List (List (Name × Rat))) (V : Tensor Ext) (d : Env) {keys : List Name}
    (hnd : keys.Nodup) : InvOn (fun a => vhat g feas V (d ++ toEnv a)) keys :=
  fun a a' hp hk => vhat_congr_env ((EnvEq.refl d).append (envEq_of_perm a a' hp (hk.nodup_iff.mpr hnd)))

theorem nodes_keys {l : List (Name × List Rat)} {p : List (Name × Rat) × Rat} (hp : p ∈ nodesOf l) :
    p.1.map (·.1) = l.map (·.1) := by
  induction l generalizing p with
  | nil => simp [nodesOf] at hp; subst hp; rfl
  | cons x l ih =>
    rw [nodesOf_cons] at hp
    obtain ⟨wl, _, hp⟩ := List.mem_flatMap.mp hp
    obtain ⟨ap, hap, rfl⟩ := List.mem_map.mp hp
    simp [ih hap]

theorem nodes_cons_map (x : Name × List Rat) (l : List (Name × List Rat)) (K : List (Name × Rat) → Option Rat) :
    (nodesOf (x :: l)).map (gK K) = x.2.zipIdx.flatMap fun wl =>
      (nodesOf l).map (gK fun a => (K ((x.1, (wl.2 : Rat)) :: a)).map (wl.1 * ·)) := by
  rw [nodesOf_cons, List.map_flatMap]
  refine List.flatMap_congr fun wl _ => ?_
  rw [List.map_map]
  refine List.map_congr_left fun ap _ => ?_
  simp only [Function.comp, gK, Option.map_map]
  congr 1
  funext v
  simp only [Function.comp]
  ring

theorem nodes_map_perm (l l' : List (Name × List Rat)) (h : l.Perm l') :
    ∀ K, InvOn K (l.map (·.1)) → ((nodesOf l).map (gK K)).Perm ((nodesOf l').map (gK K)) := by
  induction h with
  | nil => intro K _; exact List.Perm.refl _
  | cons x _ ih =>
    intro K hK
    rw [nodes_cons_map, nodes_cons_map]
    refine List.Perm.flatMap_left _ fun wl _ => ih _ fun a a' haa hkeys => ?_
    rw [hK _ _ (haa.cons _) (by simpa using hkeys.cons x.1)]
  | swap x y l =>
    intro K hK
    simp only [nodes_cons_map]
    refine List.Perm.trans (.of_eq ?_) (flatMap_comm_perm _ _ _)
    refine List.flatMap_congr fun wy _ => List.flatMap_congr fun wx _ => List.map_congr_left fun ap hap => ?_
    -- the two labels in front of `ap` in either order: `K` cannot tell, and the weights commute
    simp only [gK, Option.map_map]
    rw [hK ((y.1, (wy.2 : Rat)) :: (x.1, (wx.2 : Rat)) :: ap.1) ((x.1, (wx.2 : Rat)) :: (y.1, (wy.2 : Rat)) :: ap.1)
      (List.Perm.swap _ _ _) (by simp [nodes_keys hap])]
    congr 1
    funext v
    simp only [Function.comp]
    ring
  | trans h1 _ ih1 ih2 =>
    intro K hK
    exact (ih1 K hK).trans (ih2 K fun a a' haa hkeys => hK a a' haa (hkeys.trans (h1.map (·.1)).symm))

theorem seqSum_perm {l l' : List (Option Rat)} (h : l.Perm l') : seqSum l = seqSum l' := by
  induction h with
  | nil => rfl
  | cons x _ ih => simp only [seqSum, ih]
  | swap x y l =>
    simp only [seqSum]
    cases x <;> cases y <;> cases seqSum l <;> simp [Option.bind, Option.map]
    ring
  | trans _ _ ih1 ih2 => exact ih1.trans ih2

theorem expect_perm {K : List (Name × Rat) → Option Rat} {W W' : List (Name × List Rat)} (h : W.Perm W')
    (hK : InvOn K (W.map (·.1))) : expect K W = expect K W' :=
  seqSum_perm (nodes_map_perm W W' h K hK)

#print axioms nodes_map_perm
end Lcm
