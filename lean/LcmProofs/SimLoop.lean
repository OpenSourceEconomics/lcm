import LcmProofs.SolveFull
namespace Lcm

/-! The forward loop of the executable `simulate`: period `t` uses the value array of period `t+1`
(none in the last period) and the states produced by period `t-1`. -/

/-- continuation used by `simulate` in period `t` (with the F1 repair: the feasible restricted states
of period `t+1`) -/
def simNext (m : Model) (P : Params) (V : List (Tensor Ext)) (t : Nat) :
    Option (Tensor Ext × List (List (Name × Rat))) :=
  if t + 1 < m.nPeriods then
    some (V.getD (t + 1) default, (mkSpace m P (groups m) (t + 1)).feas)
  else none

theorem simNext_eq_nextOf (m : Model) (P : Params) (V : List (Tensor Ext)) (t : Nat) :
    simNext m P V t = nextOf m P V t := rfl

/-- the next-state dict re-keyed by state name, in declaration order of the states -/
def rekey (m : Model) (nxt : List (List (Name × Rat))) : List (List (Name × Rat)) :=
  nxt.map fun a => m.states.map fun s => (s.1, ((a.find? (·.1 == s.1)).map (·.2)).getD 0)

def periodOut (m : Model) (P : Params) (V : List (Tensor Ext)) (draws : Draws) (t : Nat)
    (states : List (List (Name × Rat))) : List Record × List (List (Name × Rat)) :=
  simulatePeriod m P (groups m) t (simNext m P V t) states draws

/-- states after `j` periods starting in period `t` with `states` -/
def statesFrom (m : Model) (P : Params) (V : List (Tensor Ext)) (draws : Draws) :
    Nat → Nat → List (List (Name × Rat)) → List (List (Name × Rat))
  | 0, _, s => s
  | j + 1, t, s => statesFrom m P V draws j (t + 1) (rekey m (periodOut m P V draws t s).2)

theorem go_eq_sim (m : Model) (P : Params) (V : List (Tensor Ext)) (draws : Draws) (k t : Nat)
    (states : List (List (Name × Rat))) :
    simulate.go m P V draws true (groups m) m.nPeriods k t states
      = (List.range k).map fun j =>
          (periodOut m P V draws (t + j) (statesFrom m P V draws j t states)).1 := by
  induction k generalizing t states with
  | zero => rfl
  | succ k ih =>
    -- the loop records period `t` and goes on from `t + 1` with the re-keyed next states: the first step of `statesFrom`
    simp only [simulate.go]
    rw [List.range_succ_eq_map, List.map_cons, List.map_map]
    congr 1
    rw [ih]
    apply List.map_congr_left
    intro j _
    simp only [Function.comp, statesFrom]
    rw [Nat.add_right_comm]
    rfl

/-- states of all agents at the start of period `t` -/
def statesAt (m : Model) (P : Params) (V : List (Tensor Ext)) (init : List (List (Name × Rat)))
    (draws : Draws) (t : Nat) : List (List (Name × Rat)) :=
  statesFrom m P V draws t 0 init

theorem simulate_eq_map (m : Model) (P : Params) (V : List (Tensor Ext)) (init : List (List (Name × Rat)))
    (draws : Draws) :
    simulate m P V init draws true
      = (List.range m.nPeriods).map fun t => (periodOut m P V draws t (statesAt m P V init draws t)).1 := by
  unfold simulate
  rw [go_eq_sim]
  simp only [Nat.zero_add, statesAt]

theorem simulate_getD (m : Model) (P : Params) (V : List (Tensor Ext)) (init : List (List (Name × Rat)))
    (draws : Draws) (t : Nat) (ht : t < m.nPeriods) :
    (simulate m P V init draws true).getD t []
      = (periodOut m P V draws t (statesAt m P V init draws t)).1 := by
  rw [simulate_eq_map, getD_map_range ht]

theorem statesFrom_succ (m : Model) (P : Params) (V : List (Tensor Ext)) (draws : Draws) (j t : Nat)
    (s : List (List (Name × Rat))) :
    statesFrom m P V draws (j + 1) t s
      = rekey m (periodOut m P V draws (t + j) (statesFrom m P V draws j t s)).2 := by
  induction j generalizing t s with
  | zero => rfl
  | succ j ih =>
    rw [statesFrom, ih, Nat.add_right_comm]
    rfl

theorem statesAt_succ (m : Model) (P : Params) (V : List (Tensor Ext)) (init : List (List (Name × Rat)))
    (draws : Draws) (t : Nat) :
    statesAt m P V init draws (t + 1)
      = rekey m (periodOut m P V draws t (statesAt m P V init draws t)).2 := by
  unfold statesAt
  rw [statesFrom_succ, Nat.zero_add]

theorem statesAt_zero (m : Model) (P : Params) (V : List (Tensor Ext)) (init : List (List (Name × Rat)))
    (draws : Draws) : statesAt m P V init draws 0 = init := rfl

theorem simulate_congr {m m' : Model} {P P' : Params} {V V' : List (Tensor Ext)} {draws draws' : Draws}
    (hT : m'.nPeriods = m.nPeriods) (hstates : m'.states = m.states)
    (hout : ∀ t states, periodOut m' P' V' draws' t states = periodOut m P V draws t states)
    (init : List (List (Name × Rat))) :
    simulate m' P' V' init draws' true = simulate m P V init draws true := by
  have hst : ∀ t, statesAt m' P' V' init draws' t = statesAt m P V init draws t := fun t => by
    induction t with
    | zero => rfl
    | succ t ih => rw [statesAt_succ, statesAt_succ, ih, hout, rekey, rekey, hstates]
  rw [simulate_eq_map, simulate_eq_map, hT]
  exact List.map_congr_left fun t _ => by rw [hst, hout]

theorem periodOut_records (m : Model) (P : Params) (V : List (Tensor Ext)) (draws : Draws) (t : Nat)
    (states : List (List (Name × Rat))) :
    (periodOut m P V draws t states).1
      = (List.range states.length).map fun i => agentDecision m P (groups m) t (simNext m P V t) states i := rfl

theorem periodOut_record_getD (m : Model) (P : Params) (V : List (Tensor Ext)) (draws : Draws) (t : Nat)
    {states : List (List (Name × Rat))} {i : Nat} (hi : i < states.length) :
    (periodOut m P V draws t states).1.getD i default
      = agentDecision m P (groups m) t (simNext m P V t) states i := by
  rw [periodOut_records, getD_map_range hi]

/-- the law of motion of one agent: its next states computed in period `t` from its own record - every transition
function evaluated by name at the record, and for a stochastic state the label drawn for `(t, x, i)` with the row
selected by the agent's dependency values in signature order (the body of the second `map` of `simulatePeriod`) -/
def nextStatesOf (m : Model) (P : Params) (draws : Draws) (t i : Nat) (rec_ : Record) : List (Name × Rat) :=
  let env := toEnv (rec_.states ++ rec_.choices) ++ periodEnv t
  ((functionInfo m).filter (·.isNext)).map fun nf =>
    let x := stripNext nf.name
    if nf.isStochasticNext then
      let deps := ((m.func? nf.name).map (·.args)).getD []
      let depIdx := deps.map fun a => ((env.get? a).map fun v => natOfRat v.toRat).getD 0
      (x, ((draws t x i depIdx : Nat) : Rat))
    else (x, ((callF m P m.fuel env nf.name).map Val.toRat).getD 0)

theorem periodOut_next (m : Model) (P : Params) (V : List (Tensor Ext)) (draws : Draws) (t : Nat)
    (states : List (List (Name × Rat))) :
    (periodOut m P V draws t states).2
      = (List.range states.length).map fun i =>
          nextStatesOf m P draws t i ((periodOut m P V draws t states).1.getD i default) := rfl

theorem periodOut_next_getD (m : Model) (P : Params) (V : List (Tensor Ext)) (draws : Draws) (t : Nat)
    {states : List (List (Name × Rat))} {i : Nat} (hi : i < states.length) :
    (periodOut m P V draws t states).2.getD i []
      = nextStatesOf m P draws t i ((periodOut m P V draws t states).1.getD i default) := by
  rw [periodOut_next, getD_map_range hi]

theorem nextStatesOf_keys (m : Model) (P : Params) (draws : Draws) (t i : Nat) (rec_ : Record) :
    (nextStatesOf m P draws t i rec_).map (·.1)
      = ((functionInfo m).filter (·.isNext)).map fun nf => stripNext nf.name := by
  unfold nextStatesOf
  rw [List.map_map]
  exact List.map_congr_left fun nf _ => by simp only [Function.comp]; split <;> rfl

theorem rekey_getD (m : Model) {nxt : List (List (Name × Rat))} {i : Nat} (hi : i < nxt.length) :
    (rekey m nxt).getD i [] = m.states.map fun s => (s.1, (((nxt.getD i []).find? (·.1 == s.1)).map (·.2)).getD 0) := by
  simp only [rekey, List.getD_eq_getElem?_getD, List.getElem?_map, List.getElem?_eq_getElem hi, Option.map_some,
    Option.getD_some]

#print axioms simulate_getD
end Lcm
