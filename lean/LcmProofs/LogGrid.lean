import LcmProofs.Basic
import Mathlib.Analysis.SpecialFunctions.Log.Basic

open Real

namespace Lcm

/-- `get_logspace_coordinate` over the reals, line by line -/
noncomputable def logCoord (v a b : ℝ) (n : ℕ) : ℝ :=
  let startL := log a
  let stopL := log b
  let valueL := log v
  let step := (stopL - startL) / ((n : ℝ) - 1)
  let c := (valueL - startL) / step
  let rLo : ℝ := (⌊c⌋ : ℤ)
  let rUp := rLo + 1
  let lo := exp (startL + step * rLo)
  let up := exp (startL + step * rUp)
  rLo + (v - lo) / (up - lo)

/-- node k of `logspace(a, b, n)` -/
noncomputable def logNode (a b : ℝ) (n : ℕ) (k : ℝ) : ℝ :=
  exp (log a + (log b - log a) / ((n : ℝ) - 1) * k)

theorem log_logNode (a b : ℝ) (n : ℕ) (k : ℝ) :
    log (logNode a b n k) = log a + (log b - log a) / ((n : ℝ) - 1) * k := log_exp _

theorem logNode_pos (a b : ℝ) (n : ℕ) (k : ℝ) : 0 < logNode a b n k := exp_pos _

theorem logNode_zero {a : ℝ} (b : ℝ) (n : ℕ) (ha : 0 < a) : logNode a b n 0 = a := by
  rw [logNode, mul_zero, add_zero, exp_log ha]

theorem logNode_last {a b : ℝ} {n : ℕ} (ha : 0 < a) (hab : a < b) (hn : 2 ≤ n) : logNode a b n ((n : ℝ) - 1) = b := by
  rw [logNode, mul_comm, grid_last hn, exp_log (ha.trans hab)]

theorem logNode_strictMono {a b : ℝ} {n : ℕ} (ha : 0 < a) (hab : a < b) (hn : 2 ≤ n) : StrictMono (logNode a b n) :=
  fun _ _ h => exp_lt_exp.mpr <|
    add_lt_add_right (mul_lt_mul_of_pos_left h (gridStep_pos (log_lt_log ha hab) hn)) _

/-- the cell index that `get_logspace_coordinate` finds on the log scale is the cell of `v` among the nodes -/
theorem log_cell {v a b : ℝ} {n : ℕ} (ha : 0 < a) (hab : a < b) (hn : 2 ≤ n) (hv : 0 < v)
    {r : ℝ} (hr : r = ((⌊(log v - log a) / ((log b - log a) / ((n : ℝ) - 1))⌋ : ℤ) : ℝ)) :
    logNode a b n r ≤ v ∧ v < logNode a b n (r + 1) := by
  have hs := gridStep_pos (log_lt_log ha hab) hn
  subst hr
  unfold logNode
  constructor
  · rw [← le_log_iff_exp_le hv, mul_comm]
    exact (le_gridCoord_iff hs).mp (Int.floor_le _)
  · rw [← log_lt_iff_lt_exp hv, mul_comm]
    exact (gridCoord_lt_iff hs).mp (Int.lt_floor_add_one _)

theorem logCoord_eq {v a b : ℝ} {n : ℕ} {r : ℝ}
    (hr : r = ((⌊(log v - log a) / ((log b - log a) / ((n : ℝ) - 1))⌋ : ℤ) : ℝ)) :
    logCoord v a b n = r + (v - logNode a b n r) / (logNode a b n (r + 1) - logNode a b n r) := by
  subst hr; rfl

theorem logCoord_in_cell {v a b : ℝ} {n : ℕ} (ha : 0 < a) (hab : a < b) (hn : 2 ≤ n) (hv : 0 < v)
    {r : ℝ} (hr : r = ((⌊(log v - log a) / ((log b - log a) / ((n : ℝ) - 1))⌋ : ℤ) : ℝ)) :
    r ≤ logCoord v a b n ∧ logCoord v a b n < r + 1 := by
  obtain ⟨hlo, hup⟩ := log_cell ha hab hn hv hr
  have hwidth : 0 < logNode a b n (r + 1) - logNode a b n r := sub_pos.mpr (hlo.trans_lt hup)
  rw [logCoord_eq hr]
  exact ⟨le_add_of_nonneg_right (div_nonneg (sub_nonneg.mpr hlo) hwidth.le),
    add_lt_add_right ((div_lt_one hwidth).mpr (sub_lt_sub_right hup _)) r⟩

theorem logCoord_node {a b : ℝ} {n : ℕ} (ha : 0 < a) (hab : a < b) (hn : 2 ≤ n) (k : ℕ) :
    logCoord (logNode a b n k) a b n = k := by
  have hs := gridStep_pos (log_lt_log ha hab) hn
  have hr : (k : ℝ) = ((⌊(log (logNode a b n k) - log a) / ((log b - log a) / ((n : ℝ) - 1))⌋ : ℤ) : ℝ) := by
    rw [log_logNode, mul_comm, gridCoord_node hs.ne', Int.floor_natCast, Int.cast_natCast]
  rw [logCoord_eq hr, sub_self, zero_div, add_zero]

#print axioms logCoord_node
#print axioms logCoord_in_cell
end Lcm
