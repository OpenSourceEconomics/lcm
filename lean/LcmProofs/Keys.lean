import LcmModel.Keys
import Mathlib.Tactic.Linarith
namespace Lcm

theorem carried_eq (t : Nat) : carried t = List.replicate t 0 := by
  induction t with
  | zero => rfl
  | succ t ih =>
    simp only [carried, simulationKeys, split, ih]
    simp [List.replicate_succ']

theorem varKey_eq {nv j : Nat} (t : Nat) (hj : j < nv) : varKey nv t j = List.replicate t 0 ++ [j + 1] := by
  simp only [varKey, simulationKeys, split, carried_eq]
  rw [List.range_succ_eq_map]
  simp [List.getD_eq_getElem?_getD, hj]

theorem agentKey_eq {nv nA j i : Nat} (t : Nat) (hj : j < nv) (hi : i < nA) :
    agentKey nv nA t j i = List.replicate t 0 ++ [j + 1, i] := by
  simp only [agentKey, split, varKey_eq t hj]
  simp [List.getD_eq_getElem?_getD, hi]

/-- Every key of the schedule is a run of zeros (the carried key), then a non-zero entry (the variable), then a tail. Such a
path determines the length of the run, the entry, and - up to extension - the tail: compare the first non-zero entry. -/
theorem zeros_succ_prefix {t t' j j' : Nat} {r r' : List Nat}
    (h : List.replicate t 0 ++ (j + 1) :: r <+: List.replicate t' 0 ++ (j' + 1) :: r') :
    t = t' ∧ j = j' ∧ r <+: r' := by
  induction t generalizing t' with
  | zero =>
    cases t' with
    | zero => simpa [List.cons_prefix_cons] using h
    | succ t' => simp [List.replicate_succ, List.cons_prefix_cons] at h
  | succ t ih =>
    cases t' with
    | zero => simp [List.replicate_succ, List.cons_prefix_cons] at h
    | succ t' =>
      rw [List.replicate_succ, List.replicate_succ, List.cons_append, List.cons_append, List.cons_prefix_cons] at h
      simpa using ih h.2

theorem agentKey_prefix_free {nv nA t j i t' j' i' : Nat} (hj : j < nv) (hi : i < nA)
    (hj' : j' < nv) (hi' : i' < nA)
    (h : agentKey nv nA t j i <+: agentKey nv nA t' j' i') : t = t' ∧ j = j' ∧ i = i' := by
  rw [agentKey_eq _ hj hi, agentKey_eq _ hj' hi'] at h
  obtain ⟨ht, hj, hi⟩ := zeros_succ_prefix h
  exact ⟨ht, hj, by simpa [List.cons_prefix_cons] using hi⟩

/-- a key that is split is never consumed: whatever lies strictly above a consumed key in the split tree is not itself a
consumed key, because the consumed keys are prefix-free -/
theorem agentKey_ne_of_proper_prefix {nv nA j i j' i' : Nat} (t t' : Nat)
    (hj : j < nv) (hi : i < nA) (hj' : j' < nv) (hi' : i' < nA)
    {k : Key} (hk : k <+: agentKey nv nA t' j' i') (hlen : k.length < t' + 2) :
    k ≠ agentKey nv nA t j i := by
  rintro rfl
  obtain ⟨rfl, _, _⟩ := agentKey_prefix_free hj hi hj' hi' hk
  rw [agentKey_eq t hj hi] at hlen
  simp at hlen

theorem searchCum_lt {ps : List Rat} {acc r : Rat} (hr : r ≤ acc + ps.sum) (hne : ps ≠ []) :
    searchCum ps acc r < ps.length := by
  induction ps generalizing acc with
  | nil => exact absurd rfl hne
  | cons p ps ih =>
    unfold searchCum
    split
    · simp
    · next h =>
      by_cases hps : ps = []
      · subst hps; rw [List.sum_singleton] at hr; exact absurd hr h
      · have := ih (acc := acc + p) (by rwa [List.sum_cons, ← add_assoc] at hr) hps
        simp only [List.length_cons]; omega

theorem searchCum_interval {ps : List Rat} {acc r : Rat} {k : Nat} (hk : k < ps.length)
    (h : searchCum ps acc r = k) (hr : acc < r) :
    acc + (ps.take k).sum < r ∧ r ≤ acc + (ps.take k).sum + ps[k] := by
  induction ps generalizing acc k with
  | nil => cases hk
  | cons p ps ih =>
    unfold searchCum at h
    split at h
    · next hle => subst h; simp; exact ⟨hr, hle⟩
    · next hnle =>
      obtain ⟨k', rfl⟩ : ∃ k', k = k' + 1 := ⟨searchCum ps (acc + p) r, by omega⟩
      have := ih (acc := acc + p) (Nat.lt_of_succ_lt_succ hk) (by omega) (not_le.mp hnle)
      simpa only [List.take_succ_cons, List.sum_cons, List.getElem_cons_succ, add_assoc] using this

#print axioms agentKey_prefix_free
end Lcm
