import LcmProofs.Entry
namespace Lcm

/-! Permuting the declaration order of states, choices and functions (C10) at the specification level: the
last-period value `specV … none` of a named state is the same for both specifications. Together with
`EntryOf.get_eq_specV_last` this identifies the stored entries of the two last-period arrays state by state, whatever
the two layouts are. -/

theorem allTrue_perm (m : Model) (P : Params) (env : Env) (l l' : List Name) (h : l.Perm l') :
    allTrue m P env l = allTrue m P env l' := by
  induction h with
  | nil => rfl
  | cons x _ ih => rw [allTrue_cons, allTrue_cons, ih]
  | swap x y l =>
    simp only [allTrue_cons]
    cases callF m P m.fuel env x <;> cases callF m P m.fuel env y <;> cases allTrue m P env l <;>
      simp [Bool.and_left_comm]
  | trans _ _ ih1 ih2 => exact ih1.trans ih2

/-- a specification with the declarations permuted -/
structure PermOf (m m' : Model) : Prop where
  periods : m'.nPeriods = m.nPeriods
  states : m.states.Perm m'.states
  choices : m.choices.Perm m'.choices
  functions : m.functions.Perm m'.functions

theorem PermOf.refl (m : Model) : PermOf m m := ⟨rfl, List.Perm.refl _, List.Perm.refl _, List.Perm.refl _⟩

theorem PermOf.names_nodup {m m' : Model} (h : PermOf m m') (hnd : ((m.states ++ m.choices).map (·.1)).Nodup) :
    ((m'.states ++ m'.choices).map (·.1)).Nodup :=
  (((h.states.append h.choices).map (·.1)).nodup_iff).mp hnd

theorem PermOf.func? {m m' : Model} (h : PermOf m m') (hnd : (m.functions.map (·.name)).Nodup) (n : Name) :
    m.func? n = m'.func? n := find?_key_perm Func.name h.functions hnd n

theorem PermOf.fuel {m m' : Model} (h : PermOf m m') : m.fuel = m'.fuel := by
  unfold Model.fuel; rw [h.functions.length_eq]

theorem PermOf.callF {m m' : Model} (h : PermOf m m') (hnd : (m.functions.map (·.name)).Nodup)
    (P : Params) (e : Env) (n : Name) : callF m P m.fuel e n = callF m' P m'.fuel e n := by
  rw [h.fuel]; exact callF_congr_funcs m m' (h.func? hnd) P _ e n

theorem PermOf.finfo {m m' : Model} (h : PermOf m m') : (functionInfo m).Perm (functionInfo m') :=
  h.functions.map _

theorem PermOf.names {m m' : Model} (h : PermOf m m') (p : FunctionInfo → Bool) :
    (((functionInfo m).filter p).map (·.name)).Perm (((functionInfo m').filter p).map (·.name)) :=
  (h.finfo.filter p).map _

theorem PermOf.allTrue_names {m m' : Model} (h : PermOf m m') (hnd : (m.functions.map (·.name)).Nodup)
    (P : Params) (e : Env) (p : FunctionInfo → Bool) :
    allTrue m P e (((functionInfo m).filter p).map (·.name))
      = allTrue m' P e (((functionInfo m').filter p).map (·.name)) := by
  rw [allTrue_congr fun n _ => h.callF hnd P e n]
  exact allTrue_perm m' P e _ _ (h.names p)

theorem PermOf.utilOf {m m' : Model} (h : PermOf m m') (hnd : (m.functions.map (·.name)).Nodup)
    (P : Params) (e : Env) : utilOf m P e = utilOf m' P e := by
  unfold Lcm.utilOf; rw [h.callF hnd]

theorem PermOf.detFn {m m' : Model} (h : PermOf m m') (hnd : (m.functions.map (·.name)).Nodup)
    (P : Params) (e : Env) : detFn m P e = detFn m' P e := by
  funext fi; unfold Lcm.detFn; rw [h.callF hnd]

theorem PermOf.wrowFn {m m' : Model} (h : PermOf m m') (hnd : (m.functions.map (·.name)).Nodup)
    (P : Params) (e : Env) : wrowFn m P e = wrowFn m' P e := by
  funext n; unfold Lcm.wrowFn; rw [h.func? hnd n]

theorem filters_perm {m m' : Model} (h : PermOf m m') (hnd : (m.functions.map (·.name)).Nodup)
    (P : Params) (e : Env) :
    allTrue m P e (filterNames m) = allTrue m' P e (filterNames m') := h.allTrue_names hnd P e (·.isFilter)

theorem uAndF_last_perm {m m' : Model} (h : PermOf m m') (hnd : (m.functions.map (·.name)).Nodup)
    {P : Params} {g g' : Groups} {t : Nat} (e : Env) :
    uAndF m P g t none e = uAndF m' P g' t none e :=
  uAndF_congr (h.allTrue_names hnd P _ (·.isConstraint)) (h.utilOf hnd P _) rfl fun _ hn _ _ => nomatch hn

theorem specQ_perm_of {m m' : Model} (h : PermOf m m') (hnd : (m.functions.map (·.name)).Nodup)
    {P : Params} {g g' : Groups} {t : Nat} {next next' : Option (Tensor Ext × List (List (Name × Rat)))}
    (huF : ∀ e, uAndF m P g t next e = uAndF m' P g' t next' e)
    {st st' ch ch' : List (Name × Rat)}
    (hst : st.Perm st') (hch : ch.Perm ch') (hkeys : ((st ++ ch).map (·.1)).Nodup) :
    specQ m P g t next st ch = specQ m' P g' t next' st' ch' := by
  have hE : EnvEq (toEnv (st ++ ch)) (toEnv (st' ++ ch')) := envEq_of_perm _ _ (hst.append hch) hkeys
  rw [specQ_eq_combine, specQ_eq_combine]
  rw [allTrue_congr_env m P (hE.append (EnvEq.refl _)), filters_perm h hnd P,
    uAndF_congr_env m P g t next hE, huF]

theorem specV_perm_of {m m' : Model} (h : PermOf m m') (hnd : (m.functions.map (·.name)).Nodup)
    {P : Params} {g g' : Groups} {t : Nat} {next next' : Option (Tensor Ext × List (List (Name × Rat)))}
    (huF : ∀ e, uAndF m P g t next e = uAndF m' P g' t next' e)
    {st st' : List (Name × Rat)} (hst : st.Perm st')
    (hkeys : (st.map (·.1) ++ m.choices.map (·.1)).Nodup) :
    specV m P g t next st = specV m' P g' t next' st' := by
  have hgrids : (m.choices.map fun p => (p.1, p.2.points)).Perm (m'.choices.map fun p => (p.1, p.2.points)) :=
    h.choices.map _
  have hq : ∀ ch ∈ allChoices m, ∀ ch', ch.Perm ch' →
      specQ m P g t next st ch = specQ m' P g' t next' st' ch' := fun ch hch ch' hp =>
    specQ_perm_of h hnd huF hst hp
      (by rw [List.map_append, allChoices_keys hch]; exact hkeys)
  -- the two enumerations of the choice grid are rearrangements of each other, combination by combination
  refine foldMax_filterMap_congr (fun ch hch => ?_) (fun ch' hch' => ?_)
  · obtain ⟨ch', hch', hperm⟩ := assignments_perm _ _ hgrids.symm ch hch
    exact ⟨ch', hch', by rw [hq ch hch ch' hperm.symm]⟩
  · obtain ⟨ch, hch, hperm⟩ := assignments_perm _ _ hgrids ch' hch'
    exact ⟨ch, hch, by rw [hq ch hch ch' hperm]⟩

theorem specV_last_perm {m m' : Model} (h : PermOf m m') (hnd : (m.functions.map (·.name)).Nodup)
    {P : Params} {g g' : Groups} {t : Nat} {st st' : List (Name × Rat)} (hst : st.Perm st')
    (hkeys : (st.map (·.1) ++ m.choices.map (·.1)).Nodup) :
    specV m P g t none st = specV m' P g' t none st' :=
  specV_perm_of h hnd (uAndF_last_perm h hnd) hst hkeys

#print axioms specV_last_perm

/-- **entries of the last-period arrays of two rearranged specifications that belong to the same named state are equal**,
whatever axes, feasible-ranks and group orders the two layouts have (`hfs`, `hfs'`: see `EntryOf.filters_hold`) -/
theorem EntryOf.agree_last {m m' : Model} {P : Params} {t : Nat} {idx idx' : List Nat} {st st' : List (Name × Rat)}
    (h : PermOf m m') (hfn : (m.functions.map (·.name)).Nodup)
    (hnd : ((m.states ++ m.choices).map (·.1)).Nodup) (ht : t + 1 = m.nPeriods)
    (he : EntryOf m P t idx st) (he' : EntryOf m' P t idx' st') (hsame : st.Perm st')
    (hfs : (!((groups m).sS.isEmpty && (groups m).sC.isEmpty)) = false →
      allTrue m P (toEnv st ++ periodEnv t) (filterNames m) = some true)
    (hfs' : (!((groups m').sS.isEmpty && (groups m').sC.isEmpty)) = false →
      allTrue m' P (toEnv st' ++ periodEnv t) (filterNames m') = some true) :
    ((solve m P true).getD t default).get idx = ((solve m' P true).getD t default).get idx' := by
  rw [he.get_eq_specV_last ht hnd hfs, he'.get_eq_specV_last (h.periods ▸ ht) (h.names_nodup hnd) hfs']
  exact specV_last_perm h hfn hsame (he.keys_nodup hnd)

/-! C10, "the same restriction written as a filter or as a constraint", last period, specification level: the value of
every named state is the same. (`specV` treats the combined filter and the combined constraint symmetrically: a choice
is admissible when both hold.) Together with `EntryOf.get_eq_specV_last` this identifies the stored last-period entries of the
two specifications for the states that remain in the space - although one array has a leading axis of feasible
restricted states and the other may not. -/

/-- `m'` is `m` with the restriction `nF` (a filter of `m`) re-declared as the constraint `nC` -/
structure FilterToConstraint (m m' : Model) (P : Params) (nF nC : Name) : Prop where
  choices : m'.choices = m.choices
  /-- every other function evaluates alike -/
  other : ∀ env n, n ≠ nF → n ≠ nC → callF m' P m'.fuel env n = callF m P m.fuel env n
  /-- the restriction itself is the same function under another name -/
  moved : ∀ env, callF m' P m'.fuel env nC = callF m P m.fuel env nF
  filters : (filterNames m).Perm (nF :: filterNames m')
  constraints : (constraintNames m').Perm (nC :: constraintNames m)
  fresh : nF ∉ filterNames m' ∧ nC ∉ filterNames m' ∧ nF ∉ constraintNames m ∧ nC ∉ constraintNames m ∧
    "utility" ≠ nF ∧ "utility" ≠ nC

/-- a restriction (value `o`) may be counted with the filters or with the constraints: admissibility asks for both -/
theorem selAdm_combineQ_move (o : Option Val) (F C : Option Bool) (U : Option Rat) :
    selAdm (combineQ F ((o.bind fun v => C.map (v.toBool && ·)).bind fun f => U.bind fun u => some (u, f)))
      = selAdm (combineQ (o.bind fun v => F.map (v.toBool && ·)) (C.bind fun f => U.bind fun u => some (u, f))) := by
  -- finitely many cases: `o` undefined or a Boolean, `F`, `C` undefined or a Boolean, `U` undefined or not
  rcases o with _ | v
  · rcases F with _ | _ | _ <;> rfl
  · simp only [Option.bind_some]
    generalize v.toBool = b
    rcases F with _ | _ | _ <;> rcases C with _ | _ | _ <;> rcases U with _ | u <;> cases b <;> rfl

theorem selAdm_specQ_filter_constraint {m m' : Model} {P : Params} {nF nC : Name} (h : FilterToConstraint m m' P nF nC)
    (g g' : Groups) (t : Nat) (st ch : List (Name × Rat)) :
    selAdm (specQ m' P g' t none st ch) = selAdm (specQ m P g t none st ch) := by
  obtain ⟨hf1, hf2, hf3, hf4, hu1, hu2⟩ := h.fresh
  rw [specQ_eq_combine, specQ_eq_combine, uAndF_none_eq, uAndF_none_eq]
  generalize toEnv (st ++ ch) ++ periodEnv t = e
  have hF : allTrue m P e (filterNames m)
      = (callF m P m.fuel e nF).bind fun v => (allTrue m P e (filterNames m')).map (v.toBool && ·) := by
    rw [allTrue_perm m P e _ _ h.filters, allTrue_cons]
  have hother : ∀ l, nF ∉ l → nC ∉ l → allTrue m' P e l = allTrue m P e l := fun l h1 h2 =>
    allTrue_congr fun n hn => h.other e n (fun hh => h1 (hh ▸ hn)) (fun hh => h2 (hh ▸ hn))
  have hC' : allTrue m' P e (constraintNames m')
      = (callF m P m.fuel e nF).bind fun v => (allTrue m P e (constraintNames m)).map (v.toBool && ·) := by
    rw [allTrue_perm m' P e _ _ h.constraints, allTrue_cons, h.moved e, hother _ hf3 hf4]
  have hU : utilOf m' P e = utilOf m P e := congrArg (Option.map Val.toRat) (h.other e "utility" hu1 hu2)
  rw [hF, hother _ hf1 hf2, hC', hU]
  exact selAdm_combineQ_move _ _ _ _

theorem specV_filter_constraint {m m' : Model} {P : Params} {nF nC : Name} (h : FilterToConstraint m m' P nF nC)
    (g g' : Groups) (t : Nat) (st : List (Name × Rat)) :
    specV m' P g' t none st = specV m P g t none st := by
  show foldMax (((allChoices m').filterMap fun c => selAdm (specQ m' P g' t none st c)).map Ext.fin) = _
  rw [show allChoices m' = allChoices m by unfold allChoices; rw [h.choices],
    funext (selAdm_specQ_filter_constraint h g g' t st)]
  rfl

#print axioms specV_filter_constraint

/-- **entries of the last-period arrays of the filter form and of the constraint form that belong to the same named state
are equal**, whichever layout either of the two has (`hfs`, `hfs'`: see `EntryOf.filters_hold`) -/
theorem EntryOf.agree_last_filter_constraint {m m' : Model} {P : Params} {nF nC : Name} {t : Nat} {idx idx' : List Nat}
    {st st' : List (Name × Rat)} (h : FilterToConstraint m m' P nF nC) (hfn : (m.functions.map (·.name)).Nodup)
    (hnd : ((m.states ++ m.choices).map (·.1)).Nodup) (hnd' : ((m'.states ++ m'.choices).map (·.1)).Nodup)
    (ht : t + 1 = m.nPeriods) (ht' : t + 1 = m'.nPeriods)
    (he : EntryOf m P t idx st) (he' : EntryOf m' P t idx' st') (hsame : st.Perm st')
    (hfs : (!((groups m).sS.isEmpty && (groups m).sC.isEmpty)) = false →
      allTrue m P (toEnv st ++ periodEnv t) (filterNames m) = some true)
    (hfs' : (!((groups m').sS.isEmpty && (groups m').sC.isEmpty)) = false →
      allTrue m' P (toEnv st' ++ periodEnv t) (filterNames m') = some true) :
    ((solve m' P true).getD t default).get idx' = ((solve m P true).getD t default).get idx := by
  rw [he.get_eq_specV_last ht hnd hfs, he'.get_eq_specV_last ht' hnd' hfs',
    specV_filter_constraint h (groups m) (groups m') t]
  exact (specV_last_perm (PermOf.refl m) hfn hsame (he.keys_nodup hnd)).symm
end Lcm
