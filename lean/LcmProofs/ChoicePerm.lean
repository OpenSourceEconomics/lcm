import LcmProofs.SpecPerm
import LcmProofs.ModelSig
import LcmProofs.NodesPerm
namespace Lcm
attribute [local irreducible] groups

/-! C10 for the executable `solve`, every period: permuting the declaration order of the **choices** and of the
**functions** leaves every value array unchanged. The state axes are
the same for both specifications, so the arrays are compared entry by entry; everything about the choices - groups,
stored rows, segments, dense choice axes, enumeration order of the continuous grids - may differ. -/

structure ChoicePermOf (m m' : Model) : Prop where
  periods : m'.nPeriods = m.nPeriods
  states : m'.states = m.states
  choices : m.choices.Perm m'.choices
  functions : m.functions.Perm m'.functions

theorem ChoicePermOf.permOf {m m' : Model} (h : ChoicePermOf m m') : PermOf m m' :=
  ⟨h.periods, by rw [h.states], h.choices, h.functions⟩

theorem mem_ancestors_perm {m m' : Model} (h : PermOf m m') (hnd : (m.functions.map (·.name)).Nodup)
    {targets targets' : List Name} (ht : targets.Perm targets') (x : Name) :
    x ∈ ancestors m' targets' ↔ x ∈ ancestors m targets := by
  have hanc := ancestorsAux_congr_args m m' fun n => by rw [h.func? hnd n]
  rw [mem_ancestors_iff, mem_ancestors_iff, ← h.fuel]
  simp only [hanc, ht.mem_iff]

theorem functionInfo_names (m : Model) : (functionInfo m).map (·.name) = m.functions.map (·.name) := by
  unfold functionInfo; rw [List.map_map]; rfl

theorem mkInfo_perm {m m' : Model} (h : PermOf m m') (hnd : (m.functions.map (·.name)).Nodup)
    (isState : Bool) (p : Name × Grid) : mkInfo m' isState p = mkInfo m isState p := by
  have hfind : (functionInfo m').find? (fun x => x.name == "next_" ++ p.1) = (functionInfo m).find? (fun x => x.name == "next_" ++ p.1) :=
    (find?_key_perm (·.name) h.finfo (by rw [functionInfo_names]; exact hnd) _).symm
  have hnn := h.names fun fi => !fi.isNext
  have hused : ∀ x, x ∈ (((functionInfo m').filter (!·.isNext)).map (·.name)) ++ ancestors m' (((functionInfo m').filter (!·.isNext)).map (·.name))
      ↔ x ∈ (((functionInfo m).filter (!·.isNext)).map (·.name)) ++ ancestors m (((functionInfo m).filter (!·.isNext)).map (·.name)) := by
    intro x
    rw [List.mem_append, List.mem_append, mem_ancestors_perm h hnd hnn x, hnn.mem_iff]
  unfold mkInfo
  simp only [hfind, contains_congr (mem_ancestors_perm h hnd (h.names (·.isFilter))), contains_congr hused]

#print axioms mkInfo_perm

theorem gridOf_state_eq {m m' : Model} (hs : m'.states = m.states) {p : Name × Grid} (hp : p ∈ m.states) :
    gridOf m' p.1 = gridOf m p.1 := by
  have h : (m.states.find? (·.1 == p.1)).isSome := List.find?_isSome.mpr ⟨p, hp, beq_self_eq_true _⟩
  unfold gridOf
  rw [hs, List.find?_append, List.find?_append, Option.or_of_isSome h, Option.or_of_isSome h]

theorem mkInfo_name (m : Model) (b : Bool) (p : Name × Grid) : (mkInfo m b p).name = p.1 := rfl

theorem pickOf_state_choicePerm {m m' : Model} (h : ChoicePermOf m m') (hnd : (m.functions.map (·.name)).Nodup)
    {p : VariableInfo → Bool} (hp : ∀ v, p v = true → v.isState = true) : pickOf m' p = pickOf m p := by
  unfold pickOf
  rw [declaredInfo_filter_states m' hp, declaredInfo_filter_states m hp, h.states,
    List.map_congr_left fun q _ => mkInfo_perm h.permOf hnd true q]
  apply List.map_congr_left
  intro v hv
  obtain ⟨q, hq, rfl⟩ := List.mem_map.mp (List.mem_filter.mp hv).1
  show (q.1, gridOf m' q.1) = (q.1, gridOf m q.1)
  rw [gridOf_state_eq h.states hq]

theorem state_groups_eq {m m' : Model} (h : ChoicePermOf m m') (hnd : (m.functions.map (·.name)).Nodup) :
    (groups m').sS = (groups m).sS ∧ (groups m').dS = (groups m).dS ∧ (groups m').cS = (groups m).cS := by
  have key := fun i hi => pickOf_state_choicePerm h hnd (groupPred_isState i hi)
  rw [groups_eq, groups_eq]
  exact ⟨congrArg pts (key 0 (.inl rfl)), congrArg pts (key 2 (.inr (.inl rfl))), key 4 (.inr (.inr rfl))⟩

theorem sC_perm {m m' : Model} (h : ChoicePermOf m m') (hfn : (m.functions.map (·.name)).Nodup)
    (hnd : ((m.states ++ m.choices).map (·.1)).Nodup) : (groups m).sC.Perm (groups m').sC := by
  have hc := groupPred_isChoice 1 (.inl rfl)
  rw [groups_eq, groups_eq]
  show (pts (pickOf m (groupPred 1))).Perm (pts (pickOf m' (groupPred 1)))
  unfold pts pickOf
  rw [declaredInfo_filter_choices m hc, declaredInfo_filter_choices m' hc,
    List.map_congr_left fun q _ => mkInfo_perm h.permOf hfn false q]
  refine ((((h.choices.map _).filter _).map _).map _).trans (List.Perm.of_eq ?_)
  rw [List.map_map, List.map_map]
  apply List.map_congr_left
  intro v hv
  obtain ⟨p, hp', rfl⟩ := List.mem_map.mp (List.mem_filter.mp hv).1
  show (p.1, (gridOf m p.1).points) = (p.1, (gridOf m' p.1).points)
  rw [gridOf_of_mem hnd (List.mem_append_right _ (h.choices.mem_iff.mpr hp')),
    gridOf_of_mem (h.permOf.names_nodup hnd) (List.mem_append_right _ hp')]

theorem vhat_state_groups {g g' : Groups} (hS : g'.sS = g.sS) (hD : g'.dS = g.dS) (hC : g'.cS = g.cS)
    (feas : List (List (Name × Rat))) (V : Tensor Ext) (env : Env) : vhat g' feas V env = vhat g feas V env := by
  unfold vhat
  rw [hS, hD, hC]

theorem uAndF_choicePerm {m m' : Model} (h : ChoicePermOf m m') (hfn : (m.functions.map (·.name)).Nodup)
    (hnexts : (functionInfo m').filter (·.isNext) = (functionInfo m).filter (·.isNext))
    (P : Params) (t : Nat) (next : Option (Tensor Ext × List (List (Name × Rat)))) (e : Env) :
    uAndF m P (groups m) t next e = uAndF m' P (groups m') t next e := by
  have hp := h.permOf
  refine uAndF_congr (hp.allTrue_names hfn P _ (·.isConstraint)) (hp.utilOf hfn P _) rfl fun nx _ _ _ => ?_
  obtain ⟨hS, hD, hC⟩ := state_groups_eq h hfn
  unfold contOf
  rw [detOf_eq, detOf_eq, wrowsOf_eq, wrowsOf_eq, hnexts, hp.detFn hfn, hp.wrowFn hfn]
  simp only [vhat_state_groups hS hD hC]

theorem spaceFilt_choicePerm {m m' : Model} (h : ChoicePermOf m m') (hfn : (m.functions.map (·.name)).Nodup)
    (P : Params) (t : Nat) {s c c' : List (Name × Rat)} (hc : c.Perm c') (hk : ((s ++ c).map (·.1)).Nodup) :
    spaceFilt m P t s c = spaceFilt m' P t s c' := by
  have hE : EnvEq (toEnv (s ++ c)) (toEnv (s ++ c')) := envEq_of_perm _ _ ((List.Perm.refl s).append hc) hk
  rw [spaceFilt_eq, spaceFilt_eq, allTrue_congr_env m P (hE.append (EnvEq.refl _)), filters_perm h.permOf hfn P]

theorem sS_sC_nodup {m : Model} (hnd : ((m.states ++ m.choices).map (·.1)).Nodup) :
    ((groups m).sS.map (·.1) ++ (groups m).sC.map (·.1)).Nodup := by
  have := allNames_nodup hnd
  simp only [allNames, List.append_assoc] at this
  rw [← List.append_assoc] at this
  exact (List.nodup_append.mp this).1

theorem feasOf_choicePerm {m m' : Model} (h : ChoicePermOf m m') (hfn : (m.functions.map (·.name)).Nodup)
    (hnd : ((m.states ++ m.choices).map (·.1)).Nodup) (P : Params) (t : Nat) :
    feasOf m' P t = feasOf m P t := by
  obtain ⟨hS, _, _⟩ := state_groups_eq h hfn
  unfold feasOf feasStates
  rw [hS]
  apply List.filter_congr
  intro s hs
  have hsc := sC_perm h hfn hnd
  have hkeys : ∀ c ∈ assignments (groups m).sC, ((s ++ c).map (·.1)).Nodup := by
    intro c hc
    rw [List.map_append, assignments_keys hs, assignments_keys hc]
    exact sS_sC_nodup hnd
  -- some combination of restricted choices passes the filters: the same question for both specifications
  rw [Bool.eq_iff_iff, List.any_eq_true, List.any_eq_true]
  constructor
  · rintro ⟨c', hc', hf⟩
    obtain ⟨c, hc, hperm⟩ := assignments_perm _ _ hsc c' hc'
    exact ⟨c, hc, (spaceFilt_choicePerm h hfn P t hperm (hkeys c hc)).trans hf⟩
  · rintro ⟨c, hc, hf⟩
    obtain ⟨c', hc', hperm⟩ := assignments_perm _ _ hsc.symm c hc
    exact ⟨c', hc', (spaceFilt_choicePerm h hfn P t hperm.symm (hkeys c hc)).symm.trans hf⟩

theorem cond_choicePerm {m m' : Model} (h : ChoicePermOf m m') (hfn : (m.functions.map (·.name)).Nodup)
    (hnd : ((m.states ++ m.choices).map (·.1)).Nodup) :
    (!((groups m').sS.isEmpty && (groups m').sC.isEmpty)) = (!((groups m).sS.isEmpty && (groups m).sC.isEmpty)) := by
  rw [(state_groups_eq h hfn).1, (sC_perm h hfn hnd).isEmpty_eq]

theorem EntryOf.choicePerm {m m' : Model} {P : Params} {t : Nat} {idx : List Nat} {st : List (Name × Rat)}
    (h : ChoicePermOf m m') (hfn : (m.functions.map (·.name)).Nodup)
    (hnd : ((m.states ++ m.choices).map (·.1)).Nodup) (he : EntryOf m P t idx st) : EntryOf m' P t idx st := by
  obtain ⟨_, hD, hC⟩ := state_groups_eq h hfn
  have hCg : cStateGrids (groups m') = cStateGrids (groups m) := by unfold cStateGrids; rw [hC]
  have hfeas := feasOf_choicePerm h hfn hnd P t
  have hcond := cond_choicePerm h hfn hnd
  cases he with
  | restricted hsp k hk dIdx xIdx hd hx =>
    simp only [← hfeas, ← hD, ← hCg]
    exact .restricted (hcond ▸ hsp) k (by rw [hfeas]; exact hk) dIdx xIdx (hD ▸ hd) (hCg ▸ hx)
  | unrestricted hdn dIdx xIdx hd hx =>
    simp only [← hD, ← hCg]
    exact .unrestricted (hcond ▸ hdn) dIdx xIdx (hD ▸ hd) (hCg ▸ hx)

/-! The objective of a period is invariant under *any* permutation of the declaration order of the functions (and of
the choices), stochastic and deterministic transition functions included. -/

/-- The names under which the transition values are stored are pairwise distinct (`next_x ↦ x`). True whenever the
function names are (`stripNext` is injective on names with that prefix), which is not proved here: a hypothesis, decided
for a concrete specification by `unfold NextKeysNodup; decide +kernel`. -/
def NextKeysNodup (m : Model) : Prop :=
  ((((functionInfo m).filter (·.isNext)).filter (!·.isStochasticNext)).map fun fi => stripNext fi.name).Nodup ∧
  ((((functionInfo m).filter (·.isNext)).filter (·.isStochasticNext)).map fun fi => stripNext fi.name).Nodup

theorem detOf_keys {m : Model} {P : Params} {env : Env} {det : Env} (h : detOf m P env = some det) :
    det.map (·.1) = (((functionInfo m).filter (·.isNext)).filter (!·.isStochasticNext)).map fun fi => stripNext fi.name :=
  mapM_some_map (detOf_eq m P env ▸ h) _ _ fun fi b hb => by
    obtain ⟨v, _, rfl⟩ := Option.map_eq_some_iff.mp hb
    rfl

theorem wrowsOf_keys {m : Model} {P : Params} {env : Env} {wrows : List (Name × List Rat)} (h : wrowsOf m P env = some wrows) :
    wrows.map (·.1) = (((functionInfo m).filter (·.isNext)).filter (·.isStochasticNext)).map fun fi => stripNext fi.name := by
  have := mapM_some_map (wrowsOf_eq m P env ▸ h) stripNext (·.1) fun n xw hn => by
    obtain ⟨_, _, _, rfl⟩ := wrowFn_some hn
    rfl
  rw [this, List.map_map]
  rfl

theorem contOf_funcPerm {m m' : Model} (h : ChoicePermOf m m') (hfn : (m.functions.map (·.name)).Nodup)
    (hk : NextKeysNodup m) (P : Params) (env : Env) (nx : Tensor Ext × List (List (Name × Rat))) :
    contOf m P (groups m) env nx = contOf m' P (groups m') env nx := by
  have hp := h.permOf
  obtain ⟨hS, hD, hC⟩ := state_groups_eq h hfn
  unfold contOf
  -- `m'` evaluates every function as `m` does; only the order of the two `mapM`s differs
  rw [detOf_eq, detOf_eq, wrowsOf_eq, wrowsOf_eq, ← hp.detFn hfn, ← hp.wrowFn hfn]
  refine mapM_bind_perm ((hp.finfo.filter _).filter _) fun det det' hdet hdp => ?_
  refine mapM_bind_perm (((hp.finfo.filter _).filter _).map _) fun W W' hW hWp => ?_
  have hdk : (det.map (·.1)).Nodup := by rw [detOf_keys hdet]; exact hk.1
  have hWk : (W.map (·.1)).Nodup := by rw [wrowsOf_keys hW]; exact hk.2
  refine (expect_perm hWp (vhat_invOn _ _ _ det hWk)).trans (expect_congr fun p _ => ?_)
  rw [vhat_state_groups hS hD hC]
  exact vhat_congr_env ((envEq_of_perm_env hdp hdk).append (EnvEq.refl _))

theorem uAndF_funcPerm {m m' : Model} (h : ChoicePermOf m m') (hfn : (m.functions.map (·.name)).Nodup)
    (hk : NextKeysNodup m) (P : Params) (t : Nat) (next : Option (Tensor Ext × List (List (Name × Rat)))) (e : Env) :
    uAndF m P (groups m) t next e = uAndF m' P (groups m') t next e :=
  uAndF_congr (h.permOf.allTrue_names hfn P _ (·.isConstraint)) (h.permOf.utilOf hfn P _) rfl
    fun nx _ _ _ => contOf_funcPerm h hfn hk P _ nx

/-- one period: if the two specifications hand period `t` the same continuation, they compute the same array. Both arrays
are materialised tensors of the same shape, so they are compared entry by entry, through the named state an entry belongs to. -/
theorem period_choicePerm {m m' : Model} (h : ChoicePermOf m m')
    (hfn : (m.functions.map (·.name)).Nodup) (hnd : ((m.states ++ m.choices).map (·.1)).Nodup)
    (hnofilt : ((groups m).sS.isEmpty && (groups m).sC.isEmpty) = true → filterNames m = [])
    (hk : NextKeysNodup m)
    {P : Params} {t : Nat} (ht : t < m.nPeriods)
    (hnext : nextOf m' P (solve m' P true) t = nextOf m P (solve m P true) t) :
    (solve m' P true).getD t default = (solve m P true).getD t default := by
  have ht' : t < m'.nPeriods := h.periods ▸ ht
  obtain ⟨_, hD, hC⟩ := state_groups_eq h hfn
  have hshape : ((solve m' P true).getD t default).shape = ((solve m P true).getD t default).shape := by
    rw [solve_shape P ht, solve_shape P ht', cond_choicePerm h hfn hnd, feasOf_choicePerm h hfn hnd,
      hD, cStateGrids, cStateGrids, hC]
  refine solve_getD_ext ht ht' hshape fun idx hidx => ?_
  -- both entries are `specV` of the same named state, and `specV` does not see the order of choices and functions
  obtain ⟨st, he⟩ := entryOf_of_inBounds ht hidx
  -- without restricted variables there is no filter at all (`hnofilt`), in either specification
  have hfs : (!((groups m).sS.isEmpty && (groups m).sC.isEmpty)) = false →
      allTrue m P (toEnv st ++ periodEnv t) (filterNames m) = some true :=
    fun hdn => by rw [hnofilt (by simpa using hdn)]; rfl
  have hfs' : (!((groups m').sS.isEmpty && (groups m').sC.isEmpty)) = false →
      allTrue m' P (toEnv st ++ periodEnv t) (filterNames m') = some true :=
    fun hdn => by rw [← filters_perm h.permOf hfn P]; exact hfs (cond_choicePerm h hfn hnd ▸ hdn)
  rw [he.get_eq_specV ht hnd hfs, (he.choicePerm h hfn hnd).get_eq_specV ht' (h.permOf.names_nodup hnd) hfs', hnext]
  exact (specV_perm_of h.permOf hfn (uAndF_funcPerm h hfn hk P t _)
    (List.Perm.refl _) (he.keys_nodup hnd)).symm

end Lcm
