import LcmProofs.SolveFull
import LcmProofs.Congr
namespace Lcm

/-! Two runs of `solve` compared. One period reads the objective `uAndF` only through its feasibility flag and, where the
flag is set, its value (`ObjRel`); the loop is compared on `bw`, period by period counted from the end (`bw_rel`: any
relation, the same groups, horizons that may differ; `solve_congr` for equal lists of arrays), or on the arrays `solve`
returns (`solve_getD_eq_of_step`: equality, the same horizon, any two groupings of the variables). -/

/-- what one period reads of an objective value `o` when the other run's value `o'` is to be the `φ`-image: the same
flag, and the `φ`-image of the value where the flag is set -/
def ObjRel (φ : Ext → Ext) (o' o : Option (Rat × Bool)) : Prop :=
  feasibleOf o' = feasibleOf o ∧ (feasibleOf o = true → extOf o' = φ (extOf o))

theorem ObjRel.of_eq {o' o : Option (Rat × Bool)} (h : o' = o) : ObjRel id o' o := h ▸ ⟨rfl, fun _ => rfl⟩

theorem ObjRel.eq_of_feasible {o' o : Option (Rat × Bool)} (h : ObjRel id o' o) (hf : feasibleOf o = true) : o' = o := by
  obtain ⟨h1, h2⟩ := h
  -- a set flag makes `o` a `some (_, true)`, the equal flag makes `o'` one, and the values then agree
  match o, o', hf, h1, h2 hf with
  | some (q, _), some (q', _), rfl, rfl, hq => cases hq; rfl

/-- an objective is `flag >>= fun f => value >>= fun q => (q, f)`: values need to agree only where the flag is `some true`.
`c`, `r'`, `r` are variables on purpose: at the instance (`allTrue …`, a bind chain over `callF m' …` / `callF m …`) the
kernel would compare the two chains argument by argument before reducing `none.bind _`. -/
theorem ObjRel.bind_flag {c : Option Bool} {r' r : Option Rat} (h : c = some true → r' = r) :
    ObjRel id (c.bind fun f => r'.bind fun q => some (q, f)) (c.bind fun f => r.bind fun q => some (q, f)) := by
  cases c with
  | none => exact ⟨rfl, fun hc => by cases hc⟩
  | some f =>
    cases f with
    | true => rw [h rfl]; exact ⟨rfl, fun _ => rfl⟩
    | false => cases r' <;> cases r <;> exact ⟨rfl, fun hc => by cases hc⟩

variable {m m' : Model} {P P' : Params} {g : Groups} {t t' : Nat}
  {next next' : Option (Tensor Ext × List (List (Name × Rat)))}

theorem ccvEnv_rel {φ : Ext → Ext} (hφ : ∀ xs mask, maskedMax (xs.map φ) mask = φ (maskedMax xs mask))
    (h : ∀ e, ObjRel φ (uAndF m' P' g t' next' e) (uAndF m P g t next e)) (env : Env) :
    ccvEnv m' P' g t' next' env = φ (ccvEnv m P g t next env) := by
  unfold ccvEnv
  rw [← hφ, List.map_map,
    List.map_congr_left (fun cc _ => (h (env ++ toEnv cc)).1 : ∀ cc ∈ assignments g.cC, _ = _)]
  exact maskedMax_map_congr fun cc _ => (h (env ++ toEnv cc)).2

theorem solvePeriod_congr (h : ∀ e, ObjRel id (uAndF m' P' g t' next' e) (uAndF m P g t next e)) (sp : Space) :
    solvePeriod m' P' g t' sp next' = solvePeriod m P g t sp next := by
  have hc : ∀ env, ccvEnv m' P' g t' next' env = ccvEnv m P g t next env :=
    ccvEnv_rel (fun _ _ => by rw [List.map_id]; rfl) h
  unfold solvePeriod ccvSparse ccvDense
  simp only [hc]

theorem mkSpace_congr
    (h : ∀ e, allTrue m' P' (e ++ periodEnv t') (filterNames m') = allTrue m P (e ++ periodEnv t) (filterNames m)) :
    mkSpace m' P' g t' = mkSpace m P g t := by
  have : spaceFilt m' P' t' = spaceFilt m P t := funext fun s => funext fun c => congrArg (·.getD false) (h _)
  rw [mkSpace_eq, mkSpace_eq, this]

theorem mkSpace_congr_calls (hfi : functionInfo m' = functionInfo m)
    (hcall : ∀ e n, callF m' P' m'.fuel (e ++ periodEnv t') n = callF m P m.fuel (e ++ periodEnv t) n) :
    mkSpace m' P' g t' = mkSpace m P g t :=
  mkSpace_congr fun e => allTrue_filter_congr hfi fun fi _ _ => hcall e fi.name

/-- both periods are counted from the end, so the horizons may differ; no bound on `j`: `bw` is total -/
theorem bw_rel {s : Bool} (R : Nat → Tensor Ext → Tensor Ext → Prop) (hg : groups m' = groups m)
    (hsp : ∀ j, mkSpace m' P' (groups m) (m'.nPeriods - 1 - j) = mkSpace m P (groups m) (m.nPeriods - 1 - j))
    (h0 : ∀ sp, R 0 (solvePeriod m' P' (groups m) (m'.nPeriods - 1) sp none)
      (solvePeriod m P (groups m) (m.nPeriods - 1) sp none))
    (hs : ∀ j sp feas V' V, R j V' V →
      R (j + 1) (solvePeriod m' P' (groups m) (m'.nPeriods - 1 - (j + 1)) sp (some (V', feas)))
        (solvePeriod m P (groups m) (m.nPeriods - 1 - (j + 1)) sp (some (V, feas)))) (j : Nat) :
    R j (bw m' P' s j).1 (bw m P s j).1 := by
  have h0' := hsp 0
  rw [Nat.sub_zero, Nat.sub_zero] at h0'
  induction j with
  | zero => simp only [bw, hg, h0']; exact h0 _
  | succ j ih => simp only [bw, bw_snd, hg, hsp]; exact hs j _ _ _ _ ih

theorem solve_getD_rel {s : Bool} {R : Nat → Tensor Ext → Tensor Ext → Prop}
    (h : ∀ j, R j (bw m' P' s j).1 (bw m P s j).1) {j : Nat} (hj : j < m.nPeriods) (hj' : j < m'.nPeriods) :
    R j ((solve m' P' s).getD (m'.nPeriods - 1 - j) default) ((solve m P s).getD (m.nPeriods - 1 - j) default) := by
  rw [solve_getD_bw _ _ hj', solve_getD_bw _ _ hj]
  exact h j

theorem solve_congr {s : Bool} (hT : m'.nPeriods = m.nPeriods) (hg : groups m' = groups m)
    (hsp : ∀ t, mkSpace m' P' (groups m) t = mkSpace m P (groups m) t)
    (hobj : ∀ t next e, ObjRel id (uAndF m' P' (groups m) t next e) (uAndF m P (groups m) t next e)) :
    solve m' P' s = solve m P s :=
  solve_eq_of_bw hT <| bw_rel (fun _ V' V => V' = V) hg (fun j => by rw [hT]; exact hsp _)
    (fun sp => by rw [hT]; exact solvePeriod_congr (hobj _ _) sp)
    (fun j sp feas V' V hV => by rw [hT, hV]; exact solvePeriod_congr (hobj _ _) sp)

/-- backward induction over the periods of two runs: it is enough that a period's arrays agree whenever the continuations
handed to that period do -/
theorem solve_getD_eq_of_step (hT : m'.nPeriods = m.nPeriods)
    (hfeas : ∀ t, (mkSpace m' P' (groups m') t).feas = (mkSpace m P (groups m) t).feas)
    (hstep : ∀ t, t < m.nPeriods → nextOf m' P' (solve m' P' true) t = nextOf m P (solve m P true) t →
      (solve m' P' true).getD t default = (solve m P true).getD t default)
    {t : Nat} (ht : t < m.nPeriods) :
    (solve m' P' true).getD t default = (solve m P true).getD t default := by
  obtain ⟨j, hj⟩ := Nat.exists_eq_add_of_lt ht
  induction j generalizing t with
  | zero => exact hstep t ht (by rw [nextOf_last P (by omega), nextOf_last P' (by omega)])
  | succ j ih =>
    refine hstep t ht ?_
    rw [nextOf_of_lt P (by omega), nextOf_of_lt P' (by omega), hfeas, ih (by omega) (by omega)]

end Lcm
