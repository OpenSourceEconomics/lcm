import LcmProofs.SimPanel
import LcmProofs.SpecRefine
namespace Lcm

/-! Additional targets of `simulate` (`_compute_targets`, C13): every target column is the by-name evaluation of the
model function at the record of the row. Consequences that connect the target columns with the other columns of the
same frame: the constraint targets hold wherever the value is finite, the `utility` target of the last period is the
value column, a deterministic-transition target is the state column of the next period. -/

theorem targetColumn_simulate (m : Model) (P : Params) (V : List (Tensor Ext)) (init : List (List (Name × Rat)))
    (draws : Draws) (name : Name) :
    targetColumn m P (simulate m P V init draws true) name
      = (List.range m.nPeriods).flatMap fun t =>
          (periodOut m P V draws t (statesAt m P V init draws t)).1.map fun r => targetCell m P t r name := by
  unfold targetColumn
  rw [simulate_eq_map, zipIdx_range_map, List.map_map, List.flatMap_def]
  rfl

theorem targetColumn_length (m : Model) (P : Params) (V : List (Tensor Ext)) (init : List (List (Name × Rat)))
    (draws : Draws) (name : Name) :
    (targetColumn m P (simulate m P V init draws true) name).length = m.nPeriods * init.length := by
  rw [targetColumn_simulate]
  exact length_flatMap_blocks (fun t => by rw [List.length_map, records_length]) _

theorem targetColumn_row {m : Model} (P : Params) (V : List (Tensor Ext)) {init : List (List (Name × Rat))}
    (draws : Draws) (name : Name) {t i : Nat} (ht : t < m.nPeriods) (hi : i < init.length) :
    (targetColumn m P (simulate m P V init draws true) name)[t * init.length + i]?
      = (((simulate m P V init draws true).getD t [])[i]?).map fun r => targetCell m P t r name := by
  rw [simulate_getD m P V init draws t ht, targetColumn_simulate]
  rw [getElem?_flatMap_blocks
    (fun t => (periodOut m P V draws t (statesAt m P V init draws t)).1.map fun r => targetCell m P t r name)
    init.length (fun t => by rw [List.length_map, records_length]) ht hi]
  rw [List.getElem?_map]

theorem targetColumns_lookup (m : Model) (P : Params) (results : List (List Record)) {names : List Name}
    {n : Name} (hn : n ∈ names) :
    ((targetColumns m P results names).find? (·.1 == n)).map (·.2) = some (targetColumn m P results n) :=
  congrArg (Option.map (·.2)) (find?_map_key names id (targetColumn m P results) n (by simpa using hn))

/-- `simChoice` evaluates the objective at `st ++ c ++ e ++ y`; the record (the frame row) lists its choices as
`e ++ c ++ y` -/
theorem row_envEq {m : Model} {st c e y : List (Name × Rat)}
    (hst : (st.map (·.1) ++ m.choices.map (·.1)).Nodup)
    (hc : c ∈ assignments (groups m).sC) (he : e ∈ assignments (groups m).dC) (hy : y ∈ assignments (groups m).cC) :
    EnvEq (toEnv (st ++ c ++ e ++ y)) (toEnv (st ++ (e ++ c ++ y))) := by
  have hkeys : ((c ++ e ++ y).map (·.1)).Perm (m.choices.map (·.1)) := by
    simp only [List.map_append]
    rw [assignments_keys hc, assignments_keys he, assignments_keys hy]
    exact choice_names_perm m
  simpa only [List.append_assoc] using
    envEq_state_choices hst hkeys (List.perm_append_comm.append_right y)

theorem agentDecision_obj_at_row {m : Model} {P : Params} {t : Nat}
    {next : Option (Tensor Ext × List (List (Name × Rat)))} {states : List (List (Name × Rat))}
    {i : Nat} (hi : i < states.length)
    (hst : ((states.getD i []).map (·.1) ++ m.choices.map (·.1)).Nodup)
    (hfin : (agentDecision m P (groups m) t next states i).value ≠ .ninf) :
    ∃ q : Rat, (agentDecision m P (groups m) t next states i).value = .fin q ∧
      uAndF m P (groups m) t next
        (toEnv ((agentDecision m P (groups m) t next states i).states
          ++ (agentDecision m P (groups m) t next states i).choices)) = some (q, true) := by
  obtain ⟨c, hc, e, he, y, hy, q, hch, _, hobj, hval⟩ := agentDecision_attains hi hfin
  refine ⟨q, hval, ?_⟩
  rw [agentDecision_states, hch, ← hobj]
  exact (uAndF_congr_env m P (groups m) t next (row_envEq hst hc he hy)).symm

theorem next_state_is_transition_target {m : Model} (P : Params) (V : List (Tensor Ext))
    {init : List (List (Name × Rat))} (draws : Draws) (t : Nat) {i : Nat} (hi : i < init.length)
    {nf : FunctionInfo} (hnf : nf ∈ (functionInfo m).filter (·.isNext)) (hdet : nf.isStochasticNext = false)
    (hnd : (((functionInfo m).filter (·.isNext)).map fun nf => stripNext nf.name).Nodup)
    (hx : stripNext nf.name ∈ m.states.map (·.1)) :
    (((statesAt m P V init draws (t + 1)).getD i []).find? (·.1 == stripNext nf.name)).map (·.2)
      = some (((targetCell m P t ((periodOut m P V draws t (statesAt m P V init draws t)).1.getD i default)
          nf.name).map Val.toRat).getD 0) := by
  rw [statesAt_succ_getD m P V draws t hi,
    periodOut_next_getD m P V draws t (by rw [statesAt_length]; exact hi)]
  generalize (periodOut m P V draws t (statesAt m P V init draws t)).1.getD i default = r
  rw [find?_map_key m.states (·.1)
    (fun x => (((nextStatesOf m P draws t i r).find? (·.1 == x)).map (·.2)).getD 0) _ hx]
  -- among the next states of the agent the pair of `nf` is the only one with its key
  have hmem : (stripNext nf.name, ((targetCell m P t r nf.name).map Val.toRat).getD 0)
      ∈ nextStatesOf m P draws t i r :=
    List.mem_map.mpr ⟨nf, hnf, by simp only [hdet]; rfl⟩
  rw [find?_key_of_mem Prod.fst (nextStatesOf_keys m P draws t i r ▸ hnd) hmem]
  rfl

#print axioms targetColumn_row
#print axioms next_state_is_transition_target
#print axioms agentDecision_obj_at_row
end Lcm
