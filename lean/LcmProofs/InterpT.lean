import LcmModel.Solve
import LcmProofs.Interp
import LcmProofs.Basic
namespace Lcm

/-! Interpolation on function-based tensors and linear-grid coordinates (C14, C15). -/

theorem lowerIdx'_eq : lowerIdx' = lowerIdx := rfl

theorem lowerIdx'_spec (c : Rat) {n : Nat} (h2 : 2 ≤ n) :
    lowerIdx' c n + 2 ≤ n ∧ (0 < lowerIdx' c n → (lowerIdx' c n : Rat) ≤ c) ∧
      (lowerIdx' c n + 2 < n → c < (lowerIdx' c n : Rat) + 1) := lowerIdx_spec c h2

theorem lowerIdx'_boundary (c : Rat) {n : Nat} (h2 : 2 ≤ n) :
    (((n : Rat) - 1) ≤ c → lowerIdx' c n = n - 2) ∧ (c ≤ 0 → lowerIdx' c n = 0) := by
  obtain ⟨h, hl, hu⟩ := lowerIdx'_spec c h2
  generalize lowerIdx' c n = lo at *
  refine ⟨fun hc => ?_, fun hc => ?_⟩ <;> by_contra hne
  · have hlt : lo + 2 < n := by omega
    have : n < lo + 1 + 1 := by exact_mod_cast sub_lt_iff_lt_add.mp (hc.trans_lt (hu hlt))
    omega
  · exact hne (Nat.le_zero.mp (by exact_mod_cast (hl (Nat.pos_of_ne_zero hne)).trans hc))

theorem interp_nodes (t : Tensor Rat) {idx : List Nat} (hb : InBounds t.shape idx)
    (h2 : ∀ n ∈ t.shape, 2 ≤ n) :
    interp t (idx.map fun (i : Nat) => (i : Rat)) = t.get idx := by
  induction idx generalizing t with
  | nil => rfl
  | cons i is ih =>
    obtain ⟨_ | ⟨n, s⟩, get⟩ := t
    · exact hb.elim
    · simp only [List.map_cons, interp, List.headD_cons, lowerIdx'_eq]
      rw [blend_at_node (fun k => interp (Tensor.slice ⟨n :: s, get⟩ k) _) hb.1 (h2 n List.mem_cons_self)]
      exact ih (Tensor.slice ⟨n :: s, get⟩ i) hb.2 fun k hk => h2 k (List.mem_cons_of_mem _ hk)

/-- `Grid.points (.lin a b n)` as a 1-d tensor (`lin_points_getElem`) -/
def linTensor (a b : Rat) (n : Nat) : Tensor Rat :=
  { shape := [n], get := fun idx => a + ((idx.headD 0 : Nat) : Rat) * ((b - a) / ((n : Rat) - 1)) }

theorem lin_points_getElem (a b : Rat) {n : Nat} (i : Nat) (hn : 2 ≤ n) (hi : i < n) :
    (Grid.points (.lin a b n))[i]? = some (a + (i : Rat) * ((b - a) / ((n : Rat) - 1))) := by
  have : ¬ n ≤ 1 := by omega
  simp [Grid.points, this, hi]

/-- no hypothesis: whatever the clipped cell `lo`, the weights sum to one and `(1 - w) * lo + w * (lo + 1) = c` -/
theorem interp_linTensor (a b : Rat) (n : Nat) (c : Rat) :
    interp (linTensor a b n) [c] = a + c * ((b - a) / ((n : Rat) - 1)) := by
  simp only [interp, linTensor, Tensor.slice, List.headD_cons]
  push_cast
  ring

theorem lin_roundtrip {a b : Rat} {n : Nat} (hab : a < b) (hn : 2 ≤ n) (v : Rat) :
    interp (linTensor a b n) [coordOf (.lin a b n) v] = v := by
  rw [interp_linTensor, coordOf, div_mul_cancel₀ _ (gridStep_pos hab hn).ne', add_sub_cancel]

#print axioms interp_nodes
#print axioms lin_roundtrip
end Lcm
