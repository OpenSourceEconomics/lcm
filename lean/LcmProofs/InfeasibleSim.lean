import LcmProofs.UtilityBody
import LcmProofs.SimLoop
import LcmProofs.SimPeriod
namespace Lcm

/-! C02 side of "an infeasible choice never determines a value": the decisions `simulate` reports (value, choices, and
hence the whole panel) do not depend on what `utility` returns where a constraint fails. -/

variable {m m' : Model} {P : Params}

theorem UtilityAgreesOnFeasible.agentDecision (h : UtilityAgreesOnFeasible m m' P) (g : Groups) (t : Nat)
    (next : Option (Tensor Ext × List (List (Name × Rat)))) (states : List (List (Name × Rat))) (i : Nat) :
    agentDecision m' P g t next states i = agentDecision m P g t next states i := by
  have hfilt : ∀ st c, agentFilt m' P g t st c = agentFilt m P g t st c := fun st c => by
    unfold agentFilt; rw [h.filters]
  unfold Lcm.agentDecision
  simp only [hfilt]
  rw [simChoice_congr
    (fun k c e y => valueOf (agentObj m P g t next (states.getD k []) c e y))
    (fun k c e y => valueOf (agentObj m' P g t next (states.getD k []) c e y))
    (fun k c e y => feasibleOf (agentObj m P g t next (states.getD k []) c e y))
    (fun k c e y => feasibleOf (agentObj m' P g t next (states.getD k []) c e y))
    (fun k c e y => (h.uAndF g t next _).1)
    (fun k c e y hf => by
      show valueOf (Lcm.uAndF m' P g t next _) = valueOf (Lcm.uAndF m P g t next _)
      rw [(h.uAndF g t next _).eq_of_feasible hf])]

theorem UtilityAgreesOnFeasible.periodOut (h : UtilityAgreesOnFeasible m m' P) (V : List (Tensor Ext)) (draws : Draws)
    (t : Nat) (states : List (List (Name × Rat))) :
    periodOut m' P V draws t states = periodOut m P V draws t states := by
  have hnext : simNext m' P V t = simNext m P V t := by
    unfold simNext; rw [h.periods, h.grp, h.mkSpace]
  unfold Lcm.periodOut Lcm.simulatePeriod
  simp only [hnext, h.grp, h.agentDecision, h.finfo]
  congr 1
  apply List.map_congr_left
  intro i _
  apply List.map_congr_left
  intro nf hnf
  have hne : nf.name ≠ "utility" := h.names nf (List.mem_filter.mp hnf).1 (Or.inr (Or.inr (List.mem_filter.mp hnf).2))
  rw [h.funcs _ hne, h.other _ _ hne]

end Lcm
