import LcmProofs.Congr
import Mathlib.Tactic.Ring
import Mathlib.Algebra.BigOperators.Ring.List
namespace Lcm

/-! The period objective `uAndF` in normal form. Its pieces are named once - combined constraint (`constraintNames`),
utility (`utilOf`), deterministic transitions (`detOf`), transition rows (`wrowsOf`), their product nodes (`nodesOf`) -
and the expectation, a left fold with an accumulator in the model, is restated as an order-free sum (`expect`). Every law
about the objective (it does not change, or changes affinely, when the specification is rewritten) is proved on these
pieces: `uAndF_eq` says how they are put together, `uAndF_congr` that nothing else is read. -/

def constraintNames (m : Model) : List Name := ((functionInfo m).filter (·.isConstraint)).map (·.name)

def utilOf (m : Model) (P : Params) (env : Env) : Option Rat := (callF m P m.fuel env "utility").map Val.toRat

def detOf (m : Model) (P : Params) (env : Env) : Option Env :=
  (((functionInfo m).filter (·.isNext)).filter (!·.isStochasticNext)).mapM fun n =>
    (callF m P m.fuel env n.name).map fun v => (stripNext n.name, v)

def wrowsOf (m : Model) (P : Params) (env : Env) : Option (List (Name × List Rat)) :=
  ((((functionInfo m).filter (·.isNext)).filter (·.isStochasticNext)).map (·.name)).mapM fun n => do
    let f ← m.func? n
    let x := stripNext n
    let deps ← f.args.mapM fun a => (env.get? a).map fun v => natOfRat v.toRat
    let arr ← (P.shocks.find? (·.1 == x)).map (·.2)
    let nlab := arr.shape.getLastD 0
    pure (x, (List.range nlab).map fun l => arr.get (deps ++ [l]))

/-- `detOf` and `wrowsOf` have their bodies written inline; `detFn` and `wrowFn` name the function they map
over, so that a lemma can speak of one transition (`detOf_eq`, `wrowsOf_eq` are `rfl`) -/
def detFn (m : Model) (P : Params) (env : Env) (fi : FunctionInfo) : Option (Name × Val) :=
  (callF m P m.fuel env fi.name).map fun v => (stripNext fi.name, v)

def wrowFn (m : Model) (P : Params) (env : Env) (n : Name) : Option (Name × List Rat) := do
  let f ← m.func? n
  let x := stripNext n
  let deps ← f.args.mapM fun a => (env.get? a).map fun v => natOfRat v.toRat
  let arr ← (P.shocks.find? (·.1 == x)).map (·.2)
  let nlab := arr.shape.getLastD 0
  pure (x, (List.range nlab).map fun l => arr.get (deps ++ [l]))

theorem detOf_eq (m : Model) (P : Params) (env : Env) :
    detOf m P env = (((functionInfo m).filter (·.isNext)).filter (!·.isStochasticNext)).mapM (detFn m P env) := rfl

theorem wrowsOf_eq (m : Model) (P : Params) (env : Env) :
    wrowsOf m P env = ((((functionInfo m).filter (·.isNext)).filter (·.isStochasticNext)).map (·.name)).mapM (wrowFn m P env) := rfl

theorem wrowFn_some {m : Model} {P : Params} {env : Env} {n : Name} {xw : Name × List Rat}
    (h : wrowFn m P env n = some xw) :
    ∃ deps, ∃ xa ∈ P.shocks,
      xw = (stripNext n, (List.range (xa.2.shape.getLastD 0)).map fun l => xa.2.get (deps ++ [l])) := by
  simp only [wrowFn, Option.bind_eq_bind, Option.bind_eq_some_iff, Option.map_eq_some_iff, Option.pure_def,
    Option.some.injEq] at h
  obtain ⟨f, _, deps, _, arr, ⟨xa, hfind, rfl⟩, rfl⟩ := h
  exact ⟨deps, xa, List.mem_of_find?_eq_some hfind, rfl⟩

theorem wrowFn_congr {m m' : Model} {P P' : Params} {env env' : Env} {n : Name} (hf : m'.func? n = m.func? n)
    (he : ∀ f, m.func? n = some f → ∀ a ∈ f.args, env'.get? a = env.get? a) (hs : P'.shocks = P.shocks) :
    wrowFn m' P' env' n = wrowFn m P env n := by
  unfold wrowFn
  rw [hf, hs]
  cases hn : m.func? n with
  | none => rfl
  | some f =>
    simp only [Option.bind_eq_bind, Option.bind_some]
    congr 1
    exact mapM_congr_option fun a ha => by rw [he f hn a ha]

def nodesOf (wrows : List (Name × List Rat)) : List (List (Name × Rat) × Rat) :=
  wrows.foldr (fun (xw : Name × List Rat) acc =>
    (xw.2.zipIdx).flatMap fun (w, l) => acc.map fun (a, pw) => ((xw.1, (l : Rat)) :: a, w * pw))
    [([], 1)]

theorem nodesOf_cons (x : Name × List Rat) (l : List (Name × List Rat)) :
    nodesOf (x :: l) = x.2.zipIdx.flatMap fun (wl : Rat × Nat) =>
      (nodesOf l).map fun (ap : List (Name × Rat) × Rat) => ((x.1, (wl.2 : Rat)) :: ap.1, wl.1 * ap.2) := rfl

theorem nodes_cons_sum (x : Name) (row : List Rat) (W' : List (Name × List Rat)) (k : List (Name × Rat) → Rat) :
    ((nodesOf ((x, row) :: W')).map fun p => p.2 * k p.1).sum
      = (row.zipIdx.map fun wl => wl.1 * ((nodesOf W').map fun p => p.2 * k ((x, (wl.2 : Rat)) :: p.1)).sum).sum := by
  rw [nodesOf_cons]
  induction row.zipIdx with
  | nil => rfl
  | cons wl zs ih =>
    rw [List.flatMap_cons, List.map_append, List.sum_append, ih, List.map_cons, List.sum_cons, List.map_map,
      ← List.sum_map_mul_left]
    congr 2
    exact List.map_congr_left fun p _ => mul_assoc _ _ _

theorem uAndF_none_eq (m : Model) (P : Params) (g : Groups) (t : Nat) (env0 : Env) :
    uAndF m P g t none env0
      = (allTrue m P (env0 ++ periodEnv t) (constraintNames m)).bind fun f =>
          (utilOf m P (env0 ++ periodEnv t)).bind fun u => some (u, f) := rfl

theorem uAndF_some_eq (m : Model) (P : Params) (g : Groups) (t : Nat) (V : Tensor Ext)
    (feas : List (List (Name × Rat))) (env0 : Env) :
    uAndF m P g t (some (V, feas)) env0
      = (allTrue m P (env0 ++ periodEnv t) (constraintNames m)).bind fun f =>
          (utilOf m P (env0 ++ periodEnv t)).bind fun u =>
            (detOf m P (env0 ++ periodEnv t)).bind fun det =>
              (wrowsOf m P (env0 ++ periodEnv t)).bind fun wrows =>
                ((nodesOf wrows).foldlM (fun acc (p : List (Name × Rat) × Rat) => do
                    let vn ← vhat g feas V (det ++ toEnv p.1)
                    pure (acc + p.2 * vn)) (0 : Rat)).bind fun ev =>
                  some (u + P.beta * ev, f) := rfl

def seqSum : List (Option Rat) → Option Rat
  | [] => some 0
  | o :: l => o.bind fun v => (seqSum l).map (v + ·)

def gK (K : List (Name × Rat) → Option Rat) (p : List (Name × Rat) × Rat) : Option Rat := (K p.1).map (p.2 * ·)

/-- the expectation of `K` over the product nodes of the rows `W`; undefined as soon as `K` is undefined at one node,
whatever its weight -/
def expect (K : List (Name × Rat) → Option Rat) (W : List (Name × List Rat)) : Option Rat :=
  seqSum ((nodesOf W).map (gK K))

theorem expect_congr {K K' : List (Name × Rat) → Option Rat} {W : List (Name × List Rat)}
    (h : ∀ p ∈ nodesOf W, K p.1 = K' p.1) : expect K W = expect K' W :=
  congrArg seqSum (List.map_congr_left fun p hp => by unfold gK; rw [h p hp])

theorem foldlM_eq_seqSum (K : List (Name × Rat) → Option Rat) (nodes : List (List (Name × Rat) × Rat)) (acc : Rat) :
    nodes.foldlM (fun ac (p : List (Name × Rat) × Rat) => do let vn ← K p.1; pure (ac + p.2 * vn)) acc
      = (seqSum (nodes.map (gK K))).map (acc + ·) := by
  induction nodes generalizing acc with
  | nil => simp [seqSum]
  | cons p ps ih =>
    simp only [List.foldlM_cons, List.map_cons, seqSum, gK]
    cases K p.1 with
    | none => rfl
    | some v =>
      refine (ih (acc + p.2 * v)).trans ?_
      cases seqSum (ps.map (gK K)) with
      | none => rfl
      | some s => exact congrArg some (add_assoc _ _ _)

theorem expect_map_affine (a c : Rat) (K : List (Name × Rat) → Option Rat) (W : List (Name × List Rat)) :
    expect (fun x => (K x).map fun q => a * q + c) W
      = (expect K W).map fun ev => a * ev + c * ((nodesOf W).map (·.2)).sum := by
  unfold expect
  induction nodesOf W with
  | nil => simp [seqSum]
  | cons p ps ih =>
    simp only [List.map_cons, seqSum, ih, gK, List.sum_cons]
    cases K p.1 <;> cases seqSum (ps.map (gK K)) <;> simp
    ring

theorem gK_isSome (K : List (Name × Rat) → Option Rat) (p : List (Name × Rat) × Rat) :
    (gK K p).isSome = (K p.1).isSome := Option.isSome_map

theorem seqSum_map_some {α : Type} (l : List α) (f : α → Rat) :
    seqSum (l.map fun a => some (f a)) = some (l.map f).sum := by
  induction l with
  | nil => rfl
  | cons a l ih => simp only [List.map_cons, seqSum, ih, Option.bind_some, Option.map_some, List.sum_cons]

theorem expect_of_isSome {K : List (Name × Rat) → Option Rat} {W : List (Name × List Rat)}
    (hK : ∀ p ∈ nodesOf W, (K p.1).isSome = true) :
    expect K W = some ((nodesOf W).map fun p => p.2 * (K p.1).getD 0).sum := by
  unfold expect
  rw [← seqSum_map_some]
  congr 1
  refine List.map_congr_left fun p hp => ?_
  obtain ⟨v, hv⟩ := Option.isSome_iff_exists.mp (hK p hp)
  rw [gK, hv]
  rfl

/-- the part of the objective that looks at the next period: expected interpolated value of the array `nx.1` -/
def contOf (m : Model) (P : Params) (g : Groups) (env : Env) (nx : Tensor Ext × List (List (Name × Rat))) : Option Rat :=
  (detOf m P env).bind fun det => (wrowsOf m P env).bind fun W =>
    expect (fun a => vhat g nx.2 nx.1 (det ++ toEnv a)) W

/-- the value part of the objective: utility, plus `β ·` the expected continuation value before the last period -/
def valOf (m : Model) (P : Params) (g : Groups) (next : Option (Tensor Ext × List (List (Name × Rat)))) (env : Env) :
    Option Rat :=
  (utilOf m P env).bind fun u =>
    match next with
    | none => some u
    | some nx => (contOf m P g env nx).map fun ev => u + P.beta * ev

/-- **the objective is the constraints' flag, then the value**: an undefined flag never looks at utility or the
continuation (a flag `some false` still does: the objective is `none` if they are undefined) -/
theorem uAndF_eq (m : Model) (P : Params) (g : Groups) (t : Nat)
    (next : Option (Tensor Ext × List (List (Name × Rat)))) (env0 : Env) :
    uAndF m P g t next env0
      = (allTrue m P (env0 ++ periodEnv t) (constraintNames m)).bind fun f =>
          (valOf m P g next (env0 ++ periodEnv t)).bind fun q => some (q, f) := by
  cases next with
  | none => rw [uAndF_none_eq]; simp only [valOf, Option.bind_assoc, Option.bind_some]
  | some nx =>
    have key : ∀ det W, (nodesOf W).foldlM (fun acc (p : List (Name × Rat) × Rat) => do
          let vn ← vhat g nx.2 nx.1 (det ++ toEnv p.1); pure (acc + p.2 * vn)) (0 : Rat)
        = expect (fun a => vhat g nx.2 nx.1 (det ++ toEnv a)) W := fun det W => by
      rw [foldlM_eq_seqSum (fun a => vhat g nx.2 nx.1 (det ++ toEnv a))]
      simp only [zero_add, Option.map_id', expect]
    rw [uAndF_some_eq]
    simp only [key, valOf, contOf, Option.bind_assoc, Option.map_eq_bind, Option.bind_some, Function.comp_def]

/-- the continuation is read only where the utility is defined -/
theorem valOf_congr {m m' : Model} {P P' : Params} {g g' : Groups} {env env' : Env}
    {next : Option (Tensor Ext × List (List (Name × Rat)))}
    (hu : utilOf m' P' env' = utilOf m P env) (hβ : P'.beta = P.beta)
    (hcont : ∀ nx, next = some nx → (utilOf m P env).isSome = true →
      contOf m' P' g' env' nx = contOf m P g env nx) :
    valOf m' P' g' next env' = valOf m P g next env := by
  unfold valOf
  rw [hu, hβ]
  cases hU : utilOf m P env with
  -- not `rfl`: the kernel would compare the two continuations, terms over different models, before it reduces `none.bind _`
  | none => rw [Option.bind_none, Option.bind_none]
  | some u =>
    cases next with
    | none => rfl
    | some nx => simp only [hcont nx rfl (by rw [hU]; rfl)]

/-- nothing else is read, and the continuation only where the constraints' flag and the utility are defined -/
theorem uAndF_congr {m m' : Model} {P P' : Params} {g g' : Groups} {t t' : Nat} {e e' : Env}
    {next : Option (Tensor Ext × List (List (Name × Rat)))}
    (hc : allTrue m' P' (e' ++ periodEnv t') (constraintNames m') = allTrue m P (e ++ periodEnv t) (constraintNames m))
    (hu : utilOf m' P' (e' ++ periodEnv t') = utilOf m P (e ++ periodEnv t)) (hβ : P'.beta = P.beta)
    (hcont : ∀ nx, next = some nx → (allTrue m P (e ++ periodEnv t) (constraintNames m)).isSome = true →
      (utilOf m P (e ++ periodEnv t)).isSome = true →
      contOf m' P' g' (e' ++ periodEnv t') nx = contOf m P g (e ++ periodEnv t) nx) :
    uAndF m' P' g' t' next e' = uAndF m P g t next e := by
  rw [uAndF_eq, uAndF_eq, hc]
  cases hA : allTrue m P (e ++ periodEnv t) (constraintNames m) with
  | none => rw [Option.bind_none, Option.bind_none]
  | some f => rw [valOf_congr hu hβ fun nx hn hU => hcont nx hn (by rw [hA]; rfl) hU]

theorem contOf_congr_next {m m' : Model} {P P' : Params} {env env' : Env} (g : Groups)
    (nx : Tensor Ext × List (List (Name × Rat))) (hfi : functionInfo m' = functionInfo m)
    (hcall : ∀ fi ∈ functionInfo m, fi.isNext = true →
      callF m' P' m'.fuel env' fi.name = callF m P m.fuel env fi.name)
    (hrow : ∀ fi ∈ functionInfo m, fi.isNext = true → wrowFn m' P' env' fi.name = wrowFn m P env fi.name) :
    contOf m' P' g env' nx = contOf m P g env nx := by
  have hd : detOf m' P' env' = detOf m P env := by
    rw [detOf_eq, detOf_eq, hfi]
    refine mapM_congr_option fun fi hfi => ?_
    have hfi := List.mem_filter.mp (List.mem_filter.mp hfi).1
    exact congrArg (Option.map _) (hcall fi hfi.1 hfi.2)
  have hw : wrowsOf m' P' env' = wrowsOf m P env := by
    rw [wrowsOf_eq, wrowsOf_eq, hfi]
    refine mapM_congr_option fun n hn => ?_
    obtain ⟨fi, hfi, rfl⟩ := List.mem_map.mp hn
    have hfi := List.mem_filter.mp (List.mem_filter.mp hfi).1
    exact hrow fi hfi.1 hfi.2
  unfold contOf
  rw [hd, hw]

/-- the objective reads model, parameters and environment only through `functionInfo`, calls by name, the transition
rows and `beta` -/
theorem uAndF_congr_calls {m m' : Model} {P P' : Params} {t t' : Nat} {e e' : Env} (g : Groups)
    (next : Option (Tensor Ext × List (List (Name × Rat)))) (hfi : functionInfo m' = functionInfo m)
    (hcall : ∀ n, callF m' P' m'.fuel (e' ++ periodEnv t') n = callF m P m.fuel (e ++ periodEnv t) n)
    (hrow : ∀ fi ∈ functionInfo m, fi.isNext = true →
      wrowFn m' P' (e' ++ periodEnv t') fi.name = wrowFn m P (e ++ periodEnv t) fi.name)
    (hβ : P'.beta = P.beta) : uAndF m' P' g t' next e' = uAndF m P g t next e :=
  uAndF_congr (allTrue_filter_congr hfi fun fi _ _ => hcall fi.name)
    (congrArg (Option.map Val.toRat) (hcall _)) hβ fun nx _ _ _ => contOf_congr_next g nx hfi (fun fi _ _ => hcall fi.name) hrow

theorem uAndF_congr_env (m : Model) (P : Params) (g : Groups) (t : Nat)
    (next : Option (Tensor Ext × List (List (Name × Rat)))) {e e' : Env} (h : EnvEq e e') :
    uAndF m P g t next e = uAndF m P g t next e' :=
  have henv : EnvEq (e ++ periodEnv t) (e' ++ periodEnv t) := h.append (EnvEq.refl _)
  uAndF_congr_calls g next rfl (callF_congr_env m P m.fuel henv)
    (fun _ _ _ => wrowFn_congr rfl (fun _ _ a _ => henv a) rfl) rfl

#print axioms uAndF_congr_env

theorem uAndF_eq_some_iff {m : Model} {P : Params} {g : Groups} {t : Nat}
    {next : Option (Tensor Ext × List (List (Name × Rat)))} {env0 : Env} {q : Rat} {f : Bool} :
    uAndF m P g t next env0 = some (q, f) ↔
      allTrue m P (env0 ++ periodEnv t) (constraintNames m) = some f ∧ valOf m P g next (env0 ++ periodEnv t) = some q := by
  rw [uAndF_eq]
  simp only [Option.bind_eq_some_iff, Option.some.injEq, Prod.mk.injEq]
  exact ⟨fun ⟨_, hA, _, hV, rfl, rfl⟩ => ⟨hA, hV⟩, fun ⟨hA, hV⟩ => ⟨f, hA, q, hV, rfl, rfl⟩⟩

theorem valOf_none (m : Model) (P : Params) (g : Groups) (env : Env) : valOf m P g none env = utilOf m P env :=
  Option.bind_fun_some _

/-- before the last period a defined value is `u + β · ev`: utility, and the discount factor once, on the expected
continuation value -/
theorem valOf_some_eq_some_iff {m : Model} {P : Params} {g : Groups} {nx : Tensor Ext × List (List (Name × Rat))}
    {env : Env} {q : Rat} :
    valOf m P g (some nx) env = some q ↔
      ∃ u ev, utilOf m P env = some u ∧ contOf m P g env nx = some ev ∧ q = u + P.beta * ev := by
  simp only [valOf, Option.bind_eq_some_iff, Option.map_eq_some_iff]
  exact ⟨fun ⟨u, hu, ev, hev, hq⟩ => ⟨u, ev, hu, hev, hq.symm⟩, fun ⟨u, ev, hu, hev, hq⟩ => ⟨u, hu, ev, hev, hq.symm⟩⟩

theorem uAndF_true_constraints {m : Model} {P : Params} {g : Groups} {t : Nat}
    {next : Option (Tensor Ext × List (List (Name × Rat)))} {env0 : Env} {q : Rat}
    (h : uAndF m P g t next env0 = some (q, true)) :
    allTrue m P (env0 ++ periodEnv t) (constraintNames m) = some true :=
  (uAndF_eq_some_iff.mp h).1

#print axioms uAndF_true_constraints

theorem uAndF_none_utility {m : Model} {P : Params} {g : Groups} {t : Nat} {env0 : Env} {q : Rat} {f : Bool}
    (h : uAndF m P g t none env0 = some (q, f)) :
    (callF m P m.fuel (env0 ++ periodEnv t) "utility").map Val.toRat = some q :=
  (valOf_none m P g _).symm.trans (uAndF_eq_some_iff.mp h).2

theorem vhat_congr_env {g : Groups} {feas : List (List (Name × Rat))} {V : Tensor Ext} {e e' : Env} (h : EnvEq e e') :
    vhat g feas V e = vhat g feas V e' := by
  unfold vhat
  simp only [h _]

end Lcm
