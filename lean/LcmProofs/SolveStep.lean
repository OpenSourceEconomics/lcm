import LcmModel.SolveStep
import LcmProofs.Space
namespace Lcm
variable {S C E Y : Type}

/-- order-free specification of "v is the maximum of f over the choices satisfying P
(−inf when there is none)" -/
def IsMaxOver {X : Type} (P : X → Prop) (f : X → Rat) (v : Ext) : Prop :=
  (∀ x, P x → Ext.le (.fin (f x)) v) ∧
  ((∃ x, P x ∧ v = .fin (f x)) ∨ ((∀ x, ¬ P x) ∧ v = .ninf))

theorem IsMaxOver.eq_ninf_iff {X : Type} {P : X → Prop} {f : X → Rat} {v : Ext}
    (hv : IsMaxOver P f v) : v = .ninf ↔ ∀ x, ¬ P x := by
  constructor
  · intro h x hx
    exact Ext.not_fin_le_ninf _ (h ▸ hv.1 x hx)
  · intro h
    exact (hv.2.resolve_left fun ⟨x, hx, _⟩ => h x hx).2

theorem IsMaxOver.attained {X : Type} {P : X → Prop} {f : X → Rat} {v : Ext}
    (hv : IsMaxOver P f v) (hne : v ≠ .ninf) : ∃ x, P x ∧ v = .fin (f x) :=
  hv.2.resolve_right fun h => hne h.2

theorem IsMaxOver.unique {X : Type} {P : X → Prop} {f : X → Rat} {v w : Ext}
    (hv : IsMaxOver P f v) (hw : IsMaxOver P f w) : v = w := by
  rcases hv.2 with ⟨x, hx, rfl⟩ | ⟨hnone, rfl⟩
  · obtain ⟨y, hy, rfl⟩ := hw.attained fun h => hw.eq_ninf_iff.mp h x hx
    exact Ext.le_antisymm (hw.1 x hx) (hv.1 y hy)
  · exact (hw.eq_ninf_iff.mpr hnone).symm

theorem IsMaxOver.transfer {X Y : Type} {P : X → Prop} {Q : Y → Prop} {f : X → Rat} {g : Y → Rat} {v : Ext}
    (h : IsMaxOver P f v)
    (fwd : ∀ x, P x → ∃ y, Q y ∧ g y = f x) (bwd : ∀ y, Q y → ∃ x, P x ∧ f x = g y) : IsMaxOver Q g v := by
  obtain ⟨hub, hatt⟩ := h
  constructor
  · intro y hy
    obtain ⟨x, hx, hfx⟩ := bwd y hy
    rw [← hfx]; exact hub x hx
  · rcases hatt with ⟨x, hx, hv⟩ | ⟨hnone, hv⟩
    · obtain ⟨y, hy, hgy⟩ := fwd x hx
      exact Or.inl ⟨y, hy, by rw [hv, hgy]⟩
    · refine Or.inr ⟨fun y hy => ?_, hv⟩
      obtain ⟨x, hx, _⟩ := bwd y hy
      exact hnone x hx

theorem IsMaxOver.congr {X : Type} {P P' : X → Prop} {f f' : X → Rat} {v : Ext}
    (hv : IsMaxOver P f v) (hP : ∀ x, P x ↔ P' x) (hf : ∀ x, P x → f x = f' x) :
    IsMaxOver P' f' v :=
  hv.transfer (fun x hx => ⟨x, (hP x).mp hx, (hf x hx).symm⟩)
    (fun x hx => ⟨x, (hP x).mpr hx, hf x ((hP x).mpr hx)⟩)

theorem isMaxOver_filter {X : Type} (xs : List X) (test : X → Bool) (f : X → Rat) :
    IsMaxOver (fun x => x ∈ xs ∧ test x = true) f
      (foldMax ((xs.filter test).map fun x => Ext.fin (f x))) := by
  constructor
  · intro x hx
    exact le_foldMax (List.mem_map.mpr ⟨x, List.mem_filter.mpr hx, rfl⟩)
  · by_cases hne : xs.filter test = []
    · refine Or.inr ⟨fun x hx => ?_, by rw [hne]; rfl⟩
      exact List.not_mem_nil (hne ▸ List.mem_filter.mpr hx)
    · obtain ⟨x, hx, hfx⟩ := List.mem_map.mp (foldMax_mem (mt List.map_eq_nil_iff.mp hne))
      exact Or.inl ⟨x, List.mem_filter.mp hx, hfx.symm⟩

theorem foldMax_isMaxOver {X : Type} (L : List X) (q : X → Option Rat) :
    IsMaxOver (fun x => x ∈ L ∧ (q x).isSome = true) (fun x => (q x).getD 0)
      (foldMax ((L.filterMap q).map Ext.fin)) := by
  have hL : L.filterMap q = (L.filter fun x => (q x).isSome).map fun x => (q x).getD 0 := by
    induction L with
    | nil => rfl
    | cons a L ih => cases h : q a <;> simp [h, ih]
  rw [hL, List.map_map]
  exact isMaxOver_filter L _ _

theorem foldMax_filterMap_congr {X Y : Type} {L : List X} {L' : List Y} {q : X → Option Rat} {q' : Y → Option Rat}
    (fwd : ∀ x ∈ L, ∃ y ∈ L', q' y = q x) (bwd : ∀ y ∈ L', ∃ x ∈ L, q x = q' y) :
    foldMax ((L.filterMap q).map Ext.fin) = foldMax ((L'.filterMap q').map Ext.fin) := by
  refine ((foldMax_isMaxOver L q).transfer ?_ ?_).unique (foldMax_isMaxOver L' q')
  · rintro x ⟨hx, hs⟩
    obtain ⟨y, hy, hq⟩ := fwd x hx
    exact ⟨y, ⟨hy, hq ▸ hs⟩, by rw [hq]⟩
  · rintro y ⟨hy, hs⟩
    obtain ⟨x, hx, hq⟩ := bwd y hy
    exact ⟨x, ⟨hx, hq ▸ hs⟩, by rw [hq]⟩

theorem maskedMax_isMax {X : Type} {l : List X} {a : X → Ext} {test : X → Bool} {f : X → Rat}
    (h : ∀ x ∈ l, test x = true → a x = .fin (f x)) :
    IsMaxOver (fun x => x ∈ l ∧ test x = true) f (maskedMax (l.map a) (l.map test)) := by
  rw [maskedMax_map_congr h, maskedMax_map]
  exact isMaxOver_filter l test f

/-- nested max = max over the pairs. The feasible first components are given twice: as the predicate `PA` the conclusion
speaks of, and as a list `asP` enumerating them (`hasP`), over which the value is a fold. `as` and `hPA` are not used
(`as := asP` always serves). -/
theorem isMaxOver_nested {A B : Type} (as : List A) (PA : A → Prop) (hPA : ∀ a, PA a → a ∈ as)
    (PB : A → B → Prop) (f : A → B → Rat) (inner : A → Ext)
    (hinner : ∀ a, PA a → IsMaxOver (PB a) (f a) (inner a))
    (asP : List A) (hasP : ∀ a, a ∈ asP ↔ PA a) :
    IsMaxOver (fun p : A × B => PA p.1 ∧ PB p.1 p.2) (fun p => f p.1 p.2)
      (foldMax (asP.map inner)) := by
  constructor
  · intro ⟨a, b⟩ ⟨ha, hb⟩
    exact Ext.le_trans ((hinner a ha).1 b hb)
      (le_foldMax (List.mem_map.mpr ⟨a, (hasP a).mpr ha, rfl⟩))
  · by_cases hv : foldMax (asP.map inner) = .ninf
    · -- every inner maximum is −inf: no pair is feasible
      refine Or.inr ⟨fun ⟨a, b⟩ ⟨ha, hb⟩ => ?_, hv⟩
      have hin := foldMax_eq_ninf_iff.mp hv _ (List.mem_map.mpr ⟨a, (hasP a).mpr ha, rfl⟩)
      exact (hinner a ha).eq_ninf_iff.mp hin b hb
    · -- the fold is one of the inner maxima, and that one is attained
      have hne : asP.map inner ≠ [] := fun h => hv (by rw [h]; rfl)
      obtain ⟨a, ha, hfa⟩ := List.mem_map.mp (foldMax_mem hne)
      have hPa := (hasP a).mp ha
      obtain ⟨b, hb, hvb⟩ := (hinner a hPa).attained (hfa ▸ hv)
      exact Or.inl ⟨(a, b), ⟨hPa, hb⟩, by rw [← hfa, hvb]⟩

#print axioms isMaxOver_nested

theorem ccvAt_isMax (ccGrid : List Y) (q : S → C → E → Y → Rat) (feas : S → C → E → Y → Bool)
    (s : S) (c : C) (e : E) :
    IsMaxOver (fun y => y ∈ ccGrid ∧ feas s c e y = true) (q s c e)
      (ccvAt ccGrid q feas s c e) :=
  maskedMax_isMax fun _ _ _ => rfl

theorem denseMaxAt_isMax (dcGrid : List E) (ccGrid : List Y) (q : S → C → E → Y → Rat)
    (feas : S → C → E → Y → Bool) (s : S) (c : C) :
    IsMaxOver (fun x : E × Y => x.1 ∈ dcGrid ∧ (x.2 ∈ ccGrid ∧ feas s c x.1 x.2 = true))
      (fun x => q s c x.1 x.2) (denseMaxAt dcGrid ccGrid q feas (s, c)) :=
  isMaxOver_nested dcGrid (fun e => e ∈ dcGrid) (fun _ h => h)
    (fun e y => y ∈ ccGrid ∧ feas s c e y = true) (q s c) _
    (fun e _ => ccvAt_isMax ccGrid q feas s c e) dcGrid (fun _ => Iff.rfl)

theorem denseSeg_isMax (scGrid : List C) (dcGrid : List E) (ccGrid : List Y)
    (filt : S → C → Bool) (q : S → C → E → Y → Rat) (feas : S → C → E → Y → Bool) (s : S) :
    IsMaxOver
      (fun x : C × (E × Y) =>
        (x.1 ∈ scGrid ∧ filt s x.1 = true) ∧
          (x.2.1 ∈ dcGrid ∧ (x.2.2 ∈ ccGrid ∧ feas s x.1 x.2.1 x.2.2 = true)))
      (fun x => q s x.1 x.2.1 x.2.2)
      (foldMax ((scGrid.filter (filt s)).map fun c => denseMaxAt dcGrid ccGrid q feas (s, c))) :=
  isMaxOver_nested scGrid (fun c => c ∈ scGrid ∧ filt s c = true) (fun _ h => h.1)
    (fun c (x : E × Y) => x.1 ∈ dcGrid ∧ (x.2 ∈ ccGrid ∧ feas s c x.1 x.2 = true))
    (fun c x => q s c x.1 x.2) _ (fun c _ => denseMaxAt_isMax dcGrid ccGrid q feas s c)
    (scGrid.filter (filt s)) (fun c => by simp [List.mem_filter])

/-- **R1, one period, one state, for arbitrary types, grids, filter, constraint and objective**: the value `vImpl`
computes for the k-th feasible restricted state - segment max over the stored rows of nested maxima, the shape of
`solvePeriod` - is the maximum of the objective over *all* grid choice combinations (restricted choices `c`,
unrestricted discrete choices `e`, continuous choices `y`) that pass the filter and the constraints; −inf iff there is
none. `vImpl` is not called by `solve`; the statement about the model is `solvePeriod_isMax`. -/
theorem vImpl_isMax (ssGrid : List S) (scGrid : List C) (filt : S → C → Bool) (dcGrid : List E)
    (ccGrid : List Y) (q : S → C → E → Y → Rat) (feas : S → C → E → Y → Bool) (k : Nat)
    (hk : k < (feasStates ssGrid scGrid filt).length) :
    IsMaxOver
      (fun x : C × (E × Y) =>
        (x.1 ∈ scGrid ∧ filt ((feasStates ssGrid scGrid filt)[k]) x.1 = true) ∧
          (x.2.1 ∈ dcGrid ∧
            (x.2.2 ∈ ccGrid ∧ feas ((feasStates ssGrid scGrid filt)[k]) x.1 x.2.1 x.2.2 = true)))
      (fun x => q ((feasStates ssGrid scGrid filt)[k]) x.1 x.2.1 x.2.2)
      (vImpl ssGrid scGrid filt dcGrid ccGrid q feas k) := by
  unfold vImpl
  rw [segMaxAt_combos ssGrid scGrid filt _ k hk]
  exact denseSeg_isMax scGrid dcGrid ccGrid filt q feas _

#print axioms vImpl_isMax

end Lcm
