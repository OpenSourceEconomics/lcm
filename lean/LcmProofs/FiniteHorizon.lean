import LcmProofs.Laws
namespace Lcm

/-! Finite-horizon dynamic programme over arbitrary state and choice types, indexed by the number `j` of periods after
the current one (`j = 0`: last period). `cont j f s x` stands for the expected continuation of next period's value
function `f` (interpolation + expectation over the stochastic transitions); the only fact used about it is that it
commutes with `f ↦ a·f + c` (`interp_affine`, `expect_affine_weighted`). No theorem builds a `DP` from a `Model`: the laws for
the executable `solve` are proved on their own (`C11_*_solve`). -/

structure DP (S X : Type) where
  choices : Nat → S → List X              -- admissible grid choices (all filters and constraints applied)
  u : Nat → S → X → Rat
  cont : Nat → (S → Rat) → S → X → Rat

def Ext.toRat : Ext → Rat
  | .fin q => q
  | .ninf => 0

/-- value `j` periods before the end -/
def DP.value {S X : Type} (d : DP S X) (β : Rat) : Nat → S → Ext
  | 0, s => bellmanStep (d.choices 0 s) (fun _ => true) (d.u 0 s) (fun _ => 0) β
  | j + 1, s =>
    bellmanStep (d.choices (j + 1) s) (fun _ => true) (d.u (j + 1) s)
      (d.cont (j + 1) (fun s' => (d.value β j s').toRat) s) β

theorem bellmanStep_fin_of_ne_nil {X : Type} {xs : List X} {u cont : X → Rat} {β : Rat} (h : xs ≠ []) :
    ∃ q, bellmanStep xs (fun _ => true) u cont β = .fin q := by
  obtain ⟨x, hx⟩ := List.exists_mem_of_ne_nil xs h
  have hm := bellmanStep_isMax xs (fun _ => true) u cont β
  obtain ⟨y, _, hy⟩ := hm.attained fun hn => hm.eq_ninf_iff.mp hn x ⟨hx, rfl⟩
  exact ⟨_, hy⟩

theorem DP.value_fin {S X : Type} (d : DP S X) (β : Rat) (hne : ∀ j s, d.choices j s ≠ []) (j : Nat) (s : S) :
    ∃ q, d.value β j s = .fin q := by
  cases j <;> exact bellmanStep_fin_of_ne_nil (hne _ s)

theorem toRat_affine {a b : Rat} {v : Ext} (h : ∃ q, v = .fin q) : (Ext.affine a b v).toRat = a * v.toRat + b := by
  obtain ⟨q, rfl⟩ := h; rfl

def DP.scale {S X : Type} (d : DP S X) (a b : Rat) : DP S X :=
  { d with u := fun j s x => a * d.u j s x + b }

/-- **affine law over the whole horizon**: with `a > 0`, every state admitting a choice, and a continuation
functional that commutes with affine maps, `V'_j = a·V_j + b·Σ_{k ≤ j} β^k` -/
theorem DP.value_scale {S X : Type} (d : DP S X) (β : Rat) {a : Rat} (b : Rat) (ha : 0 < a)
    (hne : ∀ j s, d.choices j s ≠ [])
    (hcont : ∀ j (f : S → Rat) (c : Rat) s x, d.cont j (fun s' => a * f s' + c) s x = a * d.cont j f s x + c)
    (j : Nat) (s : S) :
    (d.scale a b).value β j s = Ext.affine a (b * geo β (j + 1)) (d.value β j s) := by
  induction j generalizing s with
  | zero =>
    have := bellmanStep_affine (d.choices 0 s) (fun _ => true) (d.u 0 s) (fun _ => 0) β b 0 ha
    simpa [DP.value, DP.scale, geo] using this
  | succ j ih =>
    -- the continuation reads `a·V_j + b·Σ_{k ≤ j} β^k` (all values finite), and commutes with that map
    have hV : (fun s' => ((d.scale a b).value β j s').toRat)
        = fun s' => a * (d.value β j s').toRat + b * geo β (j + 1) :=
      funext fun s' => by rw [ih s', toRat_affine (d.value_fin β hne j s')]
    show bellmanStep (d.choices (j + 1) s) (fun _ => true) (fun x => a * d.u (j + 1) s x + b)
        (d.cont (j + 1) (fun s' => ((d.scale a b).value β j s').toRat) s) β = _
    rw [hV, funext (hcont (j + 1) _ _ s), bellmanStep_affine _ _ _ _ β b (geo β (j + 1)) ha]
    rfl

theorem DP.value_beta_zero {S X : Type} (d : DP S X) (j : Nat) (s : S) :
    d.value 0 j s = bellmanStep (d.choices j s) (fun _ => true) (d.u j s) (fun _ => 0) 0 := by
  cases j with
  | zero => rfl
  | succ j => simp only [DP.value]; exact bellmanStep_beta_zero _ _ _ _ _

theorem DP.value_congr {S X : Type} (d d' : DP S X) (β : Rat) (j : Nat)
    (h : ∀ i ≤ j, d.choices i = d'.choices i ∧ d.u i = d'.u i ∧ d.cont i = d'.cont i) (s : S) :
    d.value β j s = d'.value β j s := by
  induction j generalizing s with
  | zero =>
    obtain ⟨h1, h2, _⟩ := h 0 (Nat.le_refl 0)
    simp only [DP.value, h1, h2]
  | succ j ih =>
    obtain ⟨h1, h2, h3⟩ := h (j + 1) (Nat.le_refl _)
    have hprev : (fun s' => (d.value β j s').toRat) = fun s' => (d'.value β j s').toRat := by
      funext s'; rw [ih (fun i hi => h i (Nat.le_succ_of_le hi)) s']
    simp only [DP.value, h1, h2, h3, hprev]

#print axioms DP.value_scale
end Lcm
