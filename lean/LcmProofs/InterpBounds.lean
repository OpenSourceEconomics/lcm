import Mathlib.Tactic.Linarith
import LcmProofs.Interp2
import LcmProofs.InterpT
namespace Lcm

/-! Inside the grid (every coordinate in `[0, size - 1]`) both weights of every axis lie in `[0, 1]`. One induction over the
axes (`interp_mono`) uses this; the bounds are monotonicity against a constant array, and the `Ext` version is the `Rat`
version on the finite part of the array. -/

theorem weight_mem_unit (c : Rat) (size : Nat) (h2 : 2 ≤ size) (h0 : 0 ≤ c) (h1 : c ≤ (size : Rat) - 1) :
    0 ≤ c - (lowerIdx' c size : Rat) ∧ c - (lowerIdx' c size : Rat) ≤ 1 := by
  obtain ⟨h, hl, hu⟩ := lowerIdx'_spec c h2
  generalize lowerIdx' c size = lo at *
  constructor
  · obtain rfl | hpos := Nat.eq_zero_or_pos lo
    · simpa using h0
    · exact sub_nonneg.mpr (hl hpos)
  · obtain hlt | hge := Nat.lt_or_ge (lo + 2) size
    · exact (sub_lt_iff_lt_add'.mpr (hu hlt)).le
    · obtain rfl : lo + 2 = size := by omega
      push_cast at h1; linarith

theorem interp_mono (t t' : Tensor Rat) (cs : List Rat)
    (hshape : t'.shape = t.shape)
    (hlen : cs.length = t.shape.length)
    (h2 : ∀ n ∈ t.shape, 2 ≤ n)
    (hin : ∀ p ∈ cs.zip t.shape, 0 ≤ p.1 ∧ p.1 ≤ (p.2 : Rat) - 1)
    (hle : ∀ idx, InBounds t.shape idx → t.get idx ≤ t'.get idx) :
    interp t cs ≤ interp t' cs := by
  induction cs generalizing t t' with
  | nil =>
    have hs : t.shape = [] := List.length_eq_zero_iff.mp hlen.symm
    exact hle [] (by rw [hs]; trivial)
  | cons c cs ih =>
    obtain ⟨_ | ⟨n, s⟩, get⟩ := t
    · cases hlen
    obtain ⟨shape', get'⟩ := t'
    cases hshape
    obtain ⟨hn2, h2⟩ := List.forall_mem_cons.mp h2
    obtain ⟨hc, hin⟩ := List.forall_mem_cons.mp hin
    have hw := weight_mem_unit c n hn2 hc.1 hc.2
    have hlo := (lowerIdx'_spec c hn2).1
    have hslice : ∀ i, i < n →
        interp (Tensor.slice ⟨n :: s, get⟩ i) cs ≤ interp (Tensor.slice ⟨n :: s, get'⟩ i) cs := fun i hi =>
      ih _ _ rfl (Nat.succ.inj hlen) h2 hin fun idx hidx => hle (i :: idx) ⟨hi, hidx⟩
    simp only [interp, List.headD_cons]
    exact add_le_add (mul_le_mul_of_nonneg_left (hslice _ (by omega)) (sub_nonneg.mpr hw.2))
      (mul_le_mul_of_nonneg_left (hslice _ (by omega)) hw.1)

#print axioms interp_mono

/-- compare with the constant array `Tensor.affine 0 L t`, whose interpolant is `L` (`interp_affine`) -/
theorem interp_ge {t : Tensor Rat} {cs : List Rat} {L : Rat} (hlen : cs.length = t.shape.length)
    (h2 : ∀ n ∈ t.shape, 2 ≤ n) (hin : ∀ p ∈ cs.zip t.shape, 0 ≤ p.1 ∧ p.1 ≤ (p.2 : Rat) - 1)
    (hb : ∀ idx, InBounds t.shape idx → L ≤ t.get idx) : L ≤ interp t cs := by
  have := interp_mono (Tensor.affine 0 L t) t cs rfl hlen h2 hin fun idx hi => by
    simpa [Tensor.affine] using hb idx hi
  rwa [interp_affine, zero_mul, zero_add] at this

theorem interp_le {t : Tensor Rat} {cs : List Rat} {U : Rat} (hlen : cs.length = t.shape.length)
    (h2 : ∀ n ∈ t.shape, 2 ≤ n) (hin : ∀ p ∈ cs.zip t.shape, 0 ≤ p.1 ∧ p.1 ≤ (p.2 : Rat) - 1)
    (hb : ∀ idx, InBounds t.shape idx → t.get idx ≤ U) : interp t cs ≤ U := by
  have := interp_mono t (Tensor.affine 0 U t) cs rfl hlen h2 hin fun idx hi => by
    simpa [Tensor.affine] using hb idx hi
  rwa [interp_affine, zero_mul, zero_add] at this

def Tensor.finPart (d : Rat) (t : Tensor Ext) : Tensor Rat :=
  { shape := t.shape, get := fun idx => match t.get idx with | .fin q => q | .ninf => d }

/-- where `interpExt` is defined no touched corner is `-inf`, so `d` is never read: theorems about `interp` transfer to
`interpExt` -/
theorem interp_finPart_of_interpExt {t : Tensor Ext} {cs : List Rat} {q : Rat} (hq : interpExt t cs = some q) (d : Rat) :
    interp (t.finPart d) cs = q := by
  induction cs generalizing t q with
  | nil =>
    simp only [interpExt] at hq
    simp only [interp, Tensor.finPart]
    split at hq <;> simp_all
  | cons c cs ih =>
    simp only [interpExt, Option.bind_eq_bind, Option.pure_def] at hq
    obtain ⟨A, hA, hq⟩ := Option.bind_eq_some_iff.mp hq
    obtain ⟨B, hB, hq⟩ := Option.bind_eq_some_iff.mp hq
    cases hq
    exact congrArg₂ (fun x y => _ * x + _ * y) (ih hA) (ih hB)

theorem interpExt_bounds (t : Tensor Ext) (cs : List Rat) (L U : Rat)
    (hlen : cs.length = t.shape.length)
    (h2 : ∀ n ∈ t.shape, 2 ≤ n)
    (hin : ∀ p ∈ cs.zip t.shape, 0 ≤ p.1 ∧ p.1 ≤ (p.2 : Rat) - 1)
    (hb : ∀ idx v, InBounds t.shape idx → t.get idx = .fin v → L ≤ v ∧ v ≤ U)
    (q : Rat) (hq : interpExt t cs = some q) : L ≤ q ∧ q ≤ U := by
  -- `-inf` entries are replaced by the bound itself, which satisfies the bound
  constructor
  · rw [← interp_finPart_of_interpExt hq L]
    refine interp_ge hlen h2 hin fun idx hi => ?_
    simp only [Tensor.finPart]
    split
    exacts [(hb idx _ hi ‹_›).1, le_rfl]
  · rw [← interp_finPart_of_interpExt hq U]
    refine interp_le hlen h2 hin fun idx hi => ?_
    simp only [Tensor.finPart]
    split
    exacts [(hb idx _ hi ‹_›).2, le_rfl]

#print axioms interpExt_bounds
end Lcm
